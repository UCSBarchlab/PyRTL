import Model.Pass.Opt
import Proofs.Lemmas.PyInt
import Proofs.Lemmas.Alias
import Proofs.Lemmas.Dead
/-!
# C04 — optimize() and its passes preserve observable behaviour

The folding tables and op-class strings are regenerated from passes.py by every check run
(`Gen.ConstFold`); these theorems are re-checked against them.
-/
namespace Pyrtl.C04
open Pyrtl.Opt Pyrtl.Gen.ConstFold

theorem nat_toNat (x : Int) (n : Nat) (h : x = (n : Int)) : x.toNat = n := by subst h; simp

/-- Both arguments constant, **any width**: the folded value is the documented result and fits the
    destination, for `&`, `|`, `^`. -/
theorem constfold_both_and (w a b : Nat) (ha : a < 2 ^ w) :
    foldBoth_and a b (mask w) = ((Spec.comb .and [(w, a), (w, b)] w : Nat) : Int) := by
  simp only [foldBoth_and, fold2_and, pyAnd_nat, Spec.comb]
  rw [Nat.mod_eq_of_lt (Nat.lt_of_le_of_lt Nat.and_le_left ha)]

theorem constfold_both_or (w a b : Nat) (ha : a < 2 ^ w) (hb : b < 2 ^ w) :
    foldBoth_or a b (mask w) = ((Spec.comb .or [(w, a), (w, b)] w : Nat) : Int) := by
  simp only [foldBoth_or, fold2_or, pyOr_nat, Spec.comb]
  rw [Nat.mod_eq_of_lt (Nat.or_lt_two_pow ha hb)]

theorem constfold_both_xor (w a b : Nat) (ha : a < 2 ^ w) (hb : b < 2 ^ w) :
    foldBoth_xor a b (mask w) = ((Spec.comb .xor [(w, a), (w, b)] w : Nat) : Int) := by
  simp only [foldBoth_xor, fold2_xor, pyXor_nat, Spec.comb]
  rw [Nat.mod_eq_of_lt (Nat.xor_lt_two_pow ha hb)]

/-- NAND of two constants, any width (false of the tree as first given, which folded `1 - (l & r)`:
    12958 nand 29479 at 17 bits; repaired by the `fix:` commit dbbfc98). -/
theorem constfold_both_nand (w a b : Nat) :
    foldBoth_nand a b (mask w) = ((Spec.comb .nand [(w, a), (w, b)] w : Nat) : Int) := by
  simp only [foldBoth_nand, pyAnd_nat, Spec.comb, pyNot_natCast]
  exact pyAnd_mask_neg _ w

/-- `~` of a constant, any width. -/
theorem constfold_inv (w a : Nat) :
    fold1_inv a (mask w) = ((Spec.comb .inv [(w, a)] w : Nat) : Int) := by
  simp only [fold1_inv, Spec.comb, pyNot_natCast]
  exact pyAnd_mask_neg _ w

/-- Exactly one constant argument (the code requires all wires 1 bit wide): whatever the constant
    and whatever the other input, the replacement chosen (constant / the other wire / an inverter
    on it) has the gate's value. -/
theorem constfold_one_sound :
    ∀ c ∈ [0, 1], ∀ x ∈ [0, 1],
      (oneConst fold2_and (c : Nat)).eval x = ((Spec.comb .and [(1, c), (1, x)] 1 : Nat) : Int) ∧
      (oneConst fold2_or (c : Nat)).eval x = ((Spec.comb .or [(1, c), (1, x)] 1 : Nat) : Int) ∧
      (oneConst fold2_xor (c : Nat)).eval x = ((Spec.comb .xor [(1, c), (1, x)] 1 : Nat) : Int) ∧
      (oneConst fold2_nand (c : Nat)).eval x = ((Spec.comb .nand [(1, c), (1, x)] 1 : Nat) : Int) := by
  decide

/-- and it does not matter on which side the constant sits -/
theorem constfold_one_side :
    ∀ c ∈ [0, 1], ∀ x ∈ [0, 1],
      Spec.comb .and [(1, x), (1, c)] 1 = Spec.comb .and [(1, c), (1, x)] 1 ∧
      Spec.comb .or [(1, x), (1, c)] 1 = Spec.comb .or [(1, c), (1, x)] 1 ∧
      Spec.comb .xor [(1, x), (1, c)] 1 = Spec.comb .xor [(1, c), (1, x)] 1 ∧
      Spec.comb .nand [(1, x), (1, c)] 1 = Spec.comb .nand [(1, c), (1, x)] 1 := by
  decide

/-- **CSE may reorder arguments only of commutative ops**: every op that is *not* listed in
    `ops_where_arg_order_matters` computes the same value with its two arguments swapped. -/
theorem cse_sorted_args_commute (op : Op) (h : sortsArgs op = true)
    (w1 w2 a b dw : Nat) :
    Spec.comb op [(w1, a), (w2, b)] dw = Spec.comb op [(w2, b), (w1, a)] dw := by
  cases op with
  | and | or | xor | nand | add | mul | eq => exact Alias.comb_swap rfl w1 a w2 b dw
  | sub | lt | gt | concat => exact absurd h (by decide)
  -- no other op takes two arguments: both sides are 0
  | _ => rfl

/-- the same for three-argument nets (the mux and the concatenation, whose argument order is their meaning):
    an op whose arguments CSE sorts must be invariant under both adjacent transpositions, hence under every
    permutation of its three arguments -/
theorem cse_sorted_args_commute3 (op : Op) (h : sortsArgs op = true)
    (w1 w2 w3 a b c dw : Nat) :
    Spec.comb op [(w1, a), (w2, b), (w3, c)] dw = Spec.comb op [(w2, b), (w1, a), (w3, c)] dw ∧
    Spec.comb op [(w1, a), (w2, b), (w3, c)] dw = Spec.comb op [(w1, a), (w3, c), (w2, b)] dw := by
  -- the two ops that take three arguments are not sorted; every other op gives 0 on three arguments
  have hm : op ≠ .mux := fun hm => by subst hm; exact absurd h (by decide)
  have hk : op ≠ .concat := fun hk => by subst hk; exact absurd h (by decide)
  simp only [Alias.comb_three hm hk, and_self]

/-- memory write ports (address, data, enable) and concatenations are never argument-sorted -/
theorem cse_keeps_write_port_order (m : Nat) : sortsArgs (.mwrite m) = false ∧ sortsArgs .concat = false :=
  ⟨rfl, rfl⟩

/-- table consistency: every op with a folding rule is a valid op and none is among the ops the pass
    skips, so no rule is silently unreachable. -/
theorem fold_tables_consistent :
    (∀ k ∈ one_var_keys ++ two_var_keys, k ∈ valid_net_ops) ∧
    (∀ k ∈ one_var_keys ++ two_var_keys, k ∉ no_optimization_ops) := by
  decide

example : sortsArgs .and = true := by decide
example : sortsArgs .sub = false := by decide

/-!
`_remove_wire_nets`, `_remove_slice_nets` and each round of `common_subexp_elimination` remove a set of nets and let every
reader of a removed destination read a replacement wire instead (`Model/Pass/Alias.lean`).  A certificate (removed nets,
replacement map) is *justified* (`Alias.certOk`, decidable) when every removed net is a `w` net or an all-bits-in-order
select of equal width, or has the same op and arguments — two arguments of a commutative op possibly swapped — and the
same destination width as a kept net.  In every check run the correspondence check derives the certificate from the real
pass's input and output, has the driver evaluate `schedsOkB` and compares `Alias.applyCert` with the real output. -/
open Alias in
/-- **a justified alias elimination preserves every Output (and every other kept wire) in every cycle of every run**,
    from any initial state whose run shows only in-range values (C01: every reported value lies in [0, 2^bitwidth)),
    under the scheduler's dependency orders of both netlists. -/
theorem alias_elimination_run_eq (b : Block) (c : Cert) (h : schedsOkB b c = true) (st : State) (inps : List Env)
    (hrange : RangeRun b (Dco.orderOf b) st inps) :
    Dco.AgreeOn (fun x => b.kind x = .output)
      (run (applyCert b c) (Dco.orderOf (applyCert b c)) st inps) (run b (Dco.orderOf b) st inps) ∧
    Dco.AgreeOn (fun x => ¬ RemovedDest c x)
      (run (applyCert b c) (Dco.orderOf (applyCert b c)) st inps) (run b (Dco.orderOf b) st inps) := by
  obtain ⟨hs, hout⟩ := schedsOkB_sound h
  have hrun := alias_run hs hrange
  exact ⟨hrun.mono hout, hrun⟩

/-- the architectural state after every cycle is equal as well -/
theorem alias_elimination_state_eq (b : Block) (c : Alias.Cert) (h : Alias.schedsOkB b c = true) (st : State) (inp : Env)
    (hrange : ∀ a, evalNets b st (Dco.orderOf b) (baseEnv b st inp) a < 2 ^ b.width a) :
    (step (Alias.applyCert b c) (Dco.orderOf (Alias.applyCert b c)) st inp).2 = (step b (Dco.orderOf b) st inp).2 :=
  (Alias.alias_step (Alias.schedsOkB_sound h).1 hrange).2

/-- **dead-logic removal (`_remove_unlistened_nets`) preserves every Output and every kept wire in every cycle of
    every run**, from any state: `Dead.deadOk` (decidable, evaluated on every intercepted call) says that only
    combinational nets that drive no Output are removed and that nothing kept — register and memory-write nets
    included — reads a removed destination. -/
theorem dead_logic_removal_run_eq (b : Block) (removed : List Net) (h : Dead.deadSchedsOkB b removed = true)
    (st : State) (inps : List Env) :
    Dco.AgreeOn (fun x => b.kind x = .output)
      (run (Dead.applyDead b removed) (Dco.orderOf (Dead.applyDead b removed)) st inps) (run b (Dco.orderOf b) st inps) ∧
    Dco.AgreeOn (fun x => ¬ Dead.RemovedDest removed x)
      (run (Dead.applyDead b removed) (Dco.orderOf (Dead.applyDead b removed)) st inps) (run b (Dco.orderOf b) st inps) := by
  obtain ⟨hs, hout⟩ := Dead.deadSchedsOkB_sound h
  have hrun := Dead.dead_run hs inps st
  exact ⟨hrun.mono hout, hrun⟩

/-- non-vacuity: `t = a + c; y = t (w net); u = c + a; o1 = y; o2 = u` — the `w` net goes (readers of `y` read `t`) and
    the swapped addition is merged into the first -/
def exAlias : Block :=
  { wires := #[⟨"a", 3, .input⟩, ⟨"c", 3, .input⟩, ⟨"t", 4, .plain⟩, ⟨"y", 4, .plain⟩, ⟨"u", 4, .plain⟩,
               ⟨"o1", 4, .output⟩, ⟨"o2", 4, .output⟩]
    nets := [⟨.add, [0, 1], [2]⟩, ⟨.w, [2], [3]⟩, ⟨.add, [1, 0], [4]⟩, ⟨.w, [3], [5]⟩, ⟨.w, [4], [6]⟩]
    mems := [] }

def exCert : Alias.Cert := { removed := [⟨.w, [2], [3]⟩, ⟨.add, [1, 0], [4]⟩], sigma := [(3, 2), (4, 2)] }

example : Alias.schedsOkB exAlias exCert = true ∧
    (Alias.applyCert exAlias exCert).nets = [⟨.add, [0, 1], [2]⟩, ⟨.w, [2], [5]⟩, ⟨.w, [2], [6]⟩] := by decide

/-!
`_constant_prop_pass` is the same transformation with three more justifications (`Alias.justConst`, `justConst1`,
`justIdent`, `rewriteJustified`): a net whose arguments are all constants is replaced by a constant wire of the value the
documented semantics gives (`Alias.foldVal` — the folding is *computed from the specification*, not from the pass's
tables); a one-bit gate with one constant operand is removed in favour of a constant or of its other operand, or
rewritten into an inverter of it, according to its two-row truth table (`oneConstTable`); a net driving an Output is
rewritten into a `w` net instead of being removed.  The statement is `alias_elimination_run_eq` for certificates with
`rewrites`; registers folded to constants (the sanctioned difference of the property) are outside the model. -/

/-- non-vacuity: `x = 1 & 1` folds to the constant 1, `y = a ^ x` reads the constant instead of `x`, `z = a ^ 1` becomes
    `~a`, `o = b & 0` becomes `o = w 0` -/
def exConst : Block :=
  { wires := #[⟨"a", 1, .input⟩, ⟨"b", 1, .input⟩, ⟨"k1", 1, .const 1⟩, ⟨"k0", 1, .const 0⟩, ⟨"x", 1, .plain⟩,
               ⟨"y", 1, .plain⟩, ⟨"z", 1, .plain⟩, ⟨"o", 1, .output⟩, ⟨"oy", 1, .output⟩, ⟨"oz", 1, .output⟩,
               ⟨"c1", 1, .const 1⟩, ⟨"c0", 1, .const 0⟩]
    nets := [⟨.and, [2, 2], [4]⟩, ⟨.xor, [0, 4], [5]⟩, ⟨.xor, [0, 2], [6]⟩, ⟨.and, [1, 3], [7]⟩,
             ⟨.w, [5], [8]⟩, ⟨.w, [6], [9]⟩]
    mems := [] }

def exConstCert : Alias.Cert :=
  { removed := [⟨.and, [2, 2], [4]⟩], sigma := [(4, 10)],
    rewrites := [(⟨.xor, [0, 2], [6]⟩, ⟨.inv, [0], [6]⟩), (⟨.and, [1, 3], [7]⟩, ⟨.w, [11], [7]⟩)] }

example : Alias.schedsOkB exConst exConstCert = true ∧
    (Alias.applyCert exConst exConstCert).nets =
      [⟨.xor, [0, 10], [5]⟩, ⟨.inv, [0], [6]⟩, ⟨.w, [11], [7]⟩, ⟨.w, [5], [8]⟩, ⟨.w, [6], [9]⟩] := by decide

/-- non-vacuity for dead-logic removal: the unread `u = c + a` of `exAlias` may go -/
example : Dead.deadSchedsOkB { exAlias with nets := exAlias.nets.filter (fun n => n.dests != [6]) } [⟨.add, [1, 0], [4]⟩] = true := by
  decide

end Pyrtl.C04
