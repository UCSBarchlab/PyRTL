import Model.Sim.Mem
/-!
# C08 — MemBlock/RomBlock behave as arrays under every history of reads and writes

Two halves: the write phase of a cycle as a list of events applied to an array; and the chained hash map in
which the C code of `CompiledSimulation` keeps memory contents, which is a total map with default 0.
-/
namespace Pyrtl.C08
open Pyrtl.Mem

/-- the write phase of `step` is the application of the cycle's enabled-write events -/
theorem applyWrites_eq_evts (env : Env) (nets : List Net) (mm : Nat → Nat → Nat) :
    applyWrites env nets mm = applyEvts (evtsOf env nets) mm := by
  induction nets using evtsOf.induct env generalizing mm with
  | case1 => rfl
  | case2 n ns m a d en hargs hop hen ih => simp only [applyWrites, evtsOf, hargs, hop, if_pos hen, applyEvts, ih]
  | case3 n ns m a d en hargs hop hen ih => simp only [applyWrites, evtsOf, hargs, hop, if_neg hen, ih]
  | case4 n ns hne ih => simp only [applyWrites, evtsOf, ih]

/-- **A word holds the data of the last enabled write to it, else what it held before.** -/
theorem applyEvts_lookup (evs : List Evt) (mm : Nat → Nat → Nat) (m a : Nat) :
    applyEvts evs mm m a =
      match evs.reverse.find? (fun e => e.m = m ∧ e.a = a) with
      | some e => e.d
      | none => mm m a := by
  induction evs generalizing mm with
  | nil => rfl
  | cons e es ih =>
    simp only [applyEvts, ih, List.reverse_cons, List.find?_append]
    cases es.reverse.find? (fun e => decide (e.m = m ∧ e.a = a)) with
    | some x => rfl
    | none =>
      simp only [Option.none_or, List.find?_singleton, eq_comm (a := m), eq_comm (a := a)]
      split <;> simp [*]

/-- the events of cycle `t` are applied after its reads: an enabled write is visible from the next cycle
    on and not in its own (reads of cycle `t` see `contentAt … t`).  A disabled write makes no event
    (`applyWrites_eq_evts`). -/
theorem content_step (init : Nat → Nat → Nat) (cycles : List (List Evt)) (t : Nat) (ht : t < cycles.length) :
    contentAt init cycles (t + 1) = applyEvts (cycles.getD t []) (contentAt init cycles t) := by
  unfold contentAt
  rw [List.take_add_one, List.foldl_append]
  simp [List.getD_eq_getElem?_getD, List.getElem?_eq_getElem ht]

theorem content_zero (init : Nat → Nat → Nat) (cycles : List (List Evt)) : contentAt init cycles 0 = init := rfl

theorem evts_swap {e1 e2 : Evt} (h : ¬ (e1.m = e2.m ∧ e1.a = e2.a)) (rest : List Evt) (mm : Nat → Nat → Nat) :
    applyEvts (e1 :: e2 :: rest) mm = applyEvts (e2 :: e1 :: rest) mm := by
  show applyEvts rest _ = applyEvts rest _
  congr 1
  funext m' a'
  by_cases c1 : m' = e1.m ∧ a' = e1.a
  · by_cases c2 : m' = e2.m ∧ a' = e2.a
    · exact absurd ⟨c1.1.symm.trans c2.1, c1.2.symm.trans c2.2⟩ h
    · simp only [if_pos c1, if_neg c2]
  · simp only [if_neg c1]

/-- **Write ports to distinct addresses compose consistently**: any order of a cycle's enabled
    writes leaves the same memory, provided no two of them hit the same word. -/
theorem mem_writes_commute (l1 l2 : List Evt) (hp : l1.Perm l2)
    (hd : l1.Pairwise (fun x y => ¬ (x.m = y.m ∧ x.a = y.a))) (mm : Nat → Nat → Nat) :
    applyEvts l1 mm = applyEvts l2 mm := by
  induction hp generalizing mm with
  | nil => rfl
  | cons x _ ih =>
    simp only [applyEvts]
    exact ih (List.Pairwise.of_cons hd) _
  | swap x y l =>
    exact evts_swap ((List.pairwise_cons.mp hd).1 x List.mem_cons_self) l mm
  | trans h1 h2 ih1 ih2 =>
    rw [ih1 hd, ih2 (hd.perm h1 (fun hab q => hab ⟨q.1.symm, q.2.symm⟩))]

theorem chainSet_find {c : List (Nat × Nat)} {k v k' : Nat} {c' : List (Nat × Nat)}
    (h : chainSet c k v = some c') :
    c'.find? (·.1 = k') = if k = k' then some (k, v) else c.find? (·.1 = k') := by
  induction c generalizing c' with
  | nil => simp [chainSet] at h
  | cons p rest ih =>
    obtain ⟨kp, vp⟩ := p
    rw [chainSet] at h
    split at h
    · cases h
      subst kp
      by_cases e : k = k' <;> simp [e]
    · rename_i hk
      obtain ⟨r, hr, rfl⟩ := Option.map_eq_some_iff.1 h
      by_cases e : kp = k'
      · simp [e, show ¬ k = k' from fun q => hk (e.trans q.symm)]
      · simp only [List.find?_cons, e, decide_false, ih hr]

theorem chainSet_none (c : List (Nat × Nat)) (k v : Nat) (h : chainSet c k v = none) :
    c.find? (·.1 = k) = none := by
  induction c with
  | nil => rfl
  | cons p rest ih =>
    obtain ⟨kp, vp⟩ := p
    rw [chainSet] at h
    split at h
    · cases h
    · rename_i hk
      simp [hk, ih (Option.map_eq_none_iff.1 h)]

theorem lookup_eq (h : HMap) (k : Nat) :
    h.lookup k = (((h.chain (k % h.size)).find? (·.1 = k)).map (·.2)).getD 0 := by
  unfold HMap.lookup
  cases (h.chain (k % h.size)).find? (·.1 = k) <;> rfl

theorem insert_chain (h : HMap) (k v i : Nat) : (h.insert k v).chain i =
    if i = k % h.size then (chainSet (h.chain (k % h.size)) k v).getD ((k, v) :: h.chain (k % h.size))
    else h.chain i := by
  simp only [HMap.insert]
  split <;> simp only [*, Option.getD_some, Option.getD_none]

theorem insert_size (h : HMap) (k v : Nat) : (h.insert k v).size = h.size := by
  simp only [HMap.insert]
  split <;> rfl

theorem bucket_find (c : List (Nat × Nat)) (k v k' : Nat) :
    ((chainSet c k v).getD ((k, v) :: c)).find? (·.1 = k') = if k = k' then some (k, v) else c.find? (·.1 = k') := by
  cases hc : chainSet c k v with
  | some c' => exact chainSet_find hc
  | none =>
    rw [Option.getD_none, List.find?_cons]
    by_cases e : k = k'
    · simp only [e, decide_true, if_true]
    · simp only [e, decide_false, if_false]

/-- **The chained hash map behaves as a total map with default 0**, for any bucket count and any
    collision pattern. -/
theorem hashmap_refines_map (h : HMap) (k v k' : Nat) :
    (h.insert k v).lookup k' = if k = k' then v else h.lookup k' := by
  rw [lookup_eq, lookup_eq, insert_chain, insert_size]
  by_cases hb : k' % h.size = k % h.size
  · rw [if_pos hb, bucket_find, ← hb]
    split <;> rfl
  · rw [if_neg hb, if_neg (fun e => hb (by rw [e]))]

theorem hashmap_empty (size k : Nat) : (HMap.empty size).lookup k = 0 := rfl

example : ((HMap.empty 256).insert 5 7 |>.insert 261 9 |>.insert 5 8).lookup 5 = 8 := by decide
example : ((HMap.empty 256).insert 5 7 |>.insert 261 9).lookup 261 = 9 := by decide

end Pyrtl.C08
