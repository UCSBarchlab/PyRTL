import Model.Lib.Fips197
import Model.Gen.AesTables
import Proofs.Lemmas.Prng
import Proofs.Lemmas.GF256
/-!
# C18 — AES and PRNG generators implement their published algorithms

The tables of rtllib/aes.py are regenerated from the source on every run (`Gen.AesTables`) and
compared, entry by entry inside the kernel, with FIPS-197 computed from first principles.
-/
namespace Pyrtl.C18
open Pyrtl.Fips197 Pyrtl.Gen.AesTables

/-! A table literal is compared with a function in one pass over the list of its entries: the kernel
reaches entry `i` of a literal only by walking to it from the head, so a sweep over `t[i]!` is quadratic. -/

theorem getElem!_toList (t : Array Nat) (j : Nat) : t[j]! = t.toList.getD j 0 := by
  simp [Array.getElem!_eq_getD, Array.getD_eq_getD_getElem?, List.getD_eq_getElem?_getD]

theorem table_eq {t : Array Nat} {f : Nat → Nat} {n : Nat} (h : t.toList = (List.range n).map f)
    (i : Fin n) : t[i.val]! = f i.val := by
  simp [getElem!_toList, h, List.getD_eq_getElem?_getD, i.isLt]

/-- a byte table as one number, entry `i` at bits `8 i ..`: the kernel divides and reduces numerals in one step,
    so a lookup in the packed table does not walk the list -/
def pack : List Nat → Nat
  | [] => 0
  | x :: xs => x + 256 * pack xs

theorem pack_byte {l : List Nat} (h : ∀ x ∈ l, x < 256) (i : Nat) : pack l / 256 ^ i % 256 = l.getD i 0 := by
  induction l generalizing i with
  | nil => simp [pack]
  | cons x xs ih =>
    obtain ⟨hx, h⟩ := List.forall_mem_cons.mp h
    cases i with
    | zero =>
      rw [pack, Nat.pow_zero, Nat.div_one, Nat.add_mul_mod_self_left, Nat.mod_eq_of_lt hx]
      rfl
    | succ i =>
      rw [pack, Nat.pow_succ, Nat.mul_comm (256 ^ i), ← Nat.div_div_eq_div_mul, Nat.add_mul_div_left _ _ (by decide),
        Nat.div_eq_of_lt hx, Nat.zero_add, ih h]
      rfl

theorem table_comp {s t : Array Nat} {n : Nat} (ht : ∀ x ∈ t.toList, x < 256)
    (h : s.toList.map (pack t.toList / 256 ^ · % 256) = List.range n) (i : Fin n) : t[s[i.val]!]! = i.val := by
  have := congrArg (·[i.val]?) h
  simp only [List.getElem?_map, List.getElem?_range i.isLt, Option.map_eq_some_iff] at this
  obtain ⟨x, hx, hg⟩ := this
  rw [getElem!_toList s, List.getD_eq_getElem?_getD, hx, getElem!_toList t, ← pack_byte ht]
  exact hg

/-- every S-box entry is the affine transformation of the GF(2^8) inverse -/
theorem sbox_table_eq : ∀ i : Fin 256, Pyrtl.Gen.AesTables.sbox[i.val]! = Fips197.sbox i.val := by
  refine table_eq ?_
  rw [List.map_congr_left fun a ha => sbox_eq_chain a (List.mem_range.mp ha)]
  decide +kernel

theorem inv_sbox_inverse : ∀ i : Fin 256,
    inv_sbox[Pyrtl.Gen.AesTables.sbox[i.val]!]! = i.val ∧ Pyrtl.Gen.AesTables.sbox[inv_sbox[i.val]!]! = i.val :=
  fun i => ⟨table_comp (by decide +kernel) (by decide +kernel) i,
    table_comp (by decide +kernel) (by decide +kernel) i⟩

/-- MixColumns multiplies by 2 and 3, InvMixColumns by 9, 11, 13 and 14, through these tables -/
theorem gm_tables_eq : ∀ i : Fin 256,
    GM2[i.val]! = gmul 2 i.val ∧ GM3[i.val]! = gmul 3 i.val ∧ GM9[i.val]! = gmul 9 i.val ∧
    GM11[i.val]! = gmul 11 i.val ∧ GM13[i.val]! = gmul 13 i.val ∧ GM14[i.val]! = gmul 14 i.val :=
  fun i => ⟨table_eq (by decide +kernel) i, table_eq (by decide +kernel) i, table_eq (by decide +kernel) i,
    table_eq (by decide +kernel) i, table_eq (by decide +kernel) i, table_eq (by decide +kernel) i⟩

/-- the round constants used by the key schedule (`rcon[1..10]`) -/
theorem rcon_table_eq : ∀ i : Fin 11, i.val ≠ 0 → Pyrtl.Gen.AesTables.rcon[i.val]! = Fips197.rcon i.val := by
  decide +kernel

/-- ShiftRows as FIPS-197 defines it, under PyRTL's byte layout (`partition_wire` numbers bytes from
    the least significant end, FIPS from the first input byte): `s'[r][c] = s[r][(c + r) mod 4]`. -/
theorem shift_rows_eq_fips : ∀ r : Fin 4, ∀ c : Fin 4,
    shiftRows[15 - (r.val + 4 * c.val)]! = 15 - (r.val + 4 * ((c.val + r.val) % 4)) := by
  decide +kernel

theorem inv_shift_rows_inverse : ∀ i : Fin 16,
    shiftRows[invShiftRows[i.val]!]! = i.val ∧ invShiftRows[shiftRows[i.val]!]! = i.val := by
  decide +kernel

/-- MixColumns uses the FIPS matrix rows `{02, 03, 01, 01}` (as rotations of `[2,1,1,3]` in
    PyRTL's reversed byte order) and InvMixColumns `{0e, 0b, 0d, 09}`; their product over GF(2^8)
    is the identity matrix. -/
theorem mix_columns_inverse_constants : ∀ i : Fin 4, ∀ k : Fin 4,
    ((List.range 4).foldl (fun acc j =>
        acc ^^^ gmul (invMixMults[(j + 4 - i.val) % 4]!) (mixMults[(k.val + 4 - j) % 4]!)) 0)
      = if i = k then 1 else 0 := by
  decide +kernel

/-! ## `prng_lfsr`: the leap-ahead register equals the published LFSR under every load/req history

`Prng.lfsrStep` is one clock edge of the register-level model of the netlist (leap-ahead by `bitwidth`
concatenations, truncation by the register, `load` before `req`); it is compared with the real circuit
cycle by cycle on random load/req/seed histories by tools/checks/c18.py.  `Prng.step1` is one step of the
127-bit Fibonacci LFSR with taps 126/125 (in a register of `max 127 bitwidth` bits). -/
open Pyrtl.Prng

/-- one clock edge: reseed on `load`, leap exactly `bitwidth` single LFSR steps on `req`, else hold -/
theorem lfsr_step_eq_spec (bw st seed : Nat) (load req : Bool) :
    lfsrStep bw st load req seed % 2 ^ regW bw = specStep bw st load req seed % 2 ^ regW bw := by
  cases load
  · cases req
    · rfl
    · exact (Nat.mod_mod _ _).trans (grow_mod (regW_ge bw) bw st)
  · rfl

theorem lfsrStep_eq_specStep {bw st seed : Nat} {load req : Bool} (hst : st < 2 ^ regW bw) :
    lfsrStep bw st load req seed = specStep bw st load req seed := by
  unfold lfsrStep specStep
  rw [grow_mod (regW_ge bw), Nat.mod_eq_of_lt (iter_step1_lt hst)]

theorem lfsr_state_lt {bw st seed : Nat} {load req : Bool} (hst : st < 2 ^ regW bw) (hseed : seed < 2 ^ 127) :
    lfsrStep bw st load req seed < 2 ^ regW bw := by
  cases load
  · cases req
    · exact hst
    · exact Nat.mod_lt _ (Nat.two_pow_pos _)
  · exact lt_of_lt_of_le hseed (Nat.pow_le_pow_right (by decide) (regW_ge bw))

/-- **every history** of `(load, req, seed)` cycles from any register state: the model of the netlist and the
    published algorithm are in the same state after it -/
theorem lfsr_history_eq_spec (bw : Nat) (ins : List (Bool × Bool × Nat)) :
    ∀ st, st < 2 ^ regW bw → (∀ i ∈ ins, i.2.2 < 2 ^ 127) →
      ins.foldl (fun st i => lfsrStep bw st i.1 i.2.1 i.2.2) st =
      ins.foldl (fun st i => specStep bw st i.1 i.2.1 i.2.2) st := by
  induction ins with
  | nil => intros; rfl
  | cons i rest ih =>
    intro st hst hseed
    obtain ⟨hi, hseed⟩ := List.forall_mem_cons.mp hseed
    simp only [List.foldl_cons]
    rw [← lfsrStep_eq_specStep hst]
    exact ih _ (lfsr_state_lt hst hi) hseed

/-- closed form: after a load of `S` (from any earlier state, a coinciding request being ignored), any
    sequence of cycles without load leaves the register at `S` advanced by `bitwidth` single steps per
    request pulse, whatever the idle cycles in between and whatever the seed input does meanwhile -/
theorem lfsr_after_load (bw S st0 : Nat) (r0 : Bool) (hS : S < 2 ^ 127) (ops : List (Bool × Nat)) :
    ops.foldl (fun st o => lfsrStep bw st false o.1 o.2) (lfsrStep bw st0 true r0 S) =
      iter (step1 (regW bw)) (bw * (ops.filter (·.1)).length) S := by
  have hSW : S < 2 ^ regW bw := lt_of_lt_of_le hS (Nat.pow_le_pow_right (by decide) (regW_ge bw))
  rw [show lfsrStep bw st0 true r0 S = S from rfl]
  generalize S = st at hSW
  induction ops generalizing st with
  | nil => rfl
  | cons o rest ih =>
    obtain ⟨r, x⟩ := o
    rw [List.foldl_cons, lfsrStep_eq_specStep hSW]
    cases r
    · exact ih st hSW
    · rw [show specStep bw st false true x = iter (step1 (regW bw)) bw st from rfl,
        ih _ (iter_step1_lt hSW), iter_add]
      simp [Nat.mul_succ]

-- `lfsrTrace` on a history with a load, a request, an idle cycle and a load coinciding with a request (the load wins)
example : Prng.lfsrTrace 5 0 [(true, false, 2 ^ 126 + 1), (false, true, 0), (false, false, 0), (true, true, 3), (false, false, 0)]
    = [0, 1, 16, 16, 3] := by decide +kernel

end Pyrtl.C18
