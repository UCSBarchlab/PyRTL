import Model.Graph.Blif
import Model.Gen.BlifTables
/-!
# C12 — imported BLIF and ISCAS netlists compute the function the file defines

`Gen.BlifTables` is regenerated from `pyrtl/importexport.py` on every run: the flip-flop next-state
table, the special-cased covers and the .bench gate chain.  The block-level behaviour (wiring of
models, vectors, output indirection) is covered by the correspondence check in tools/checks/c12.py.
-/
namespace Pyrtl.C12
open Pyrtl.Blif Pyrtl.Gen.BlifTables

/-- every entry of the importer's `flop_next` table is the Yosys cell of that name -/
theorem flop_table_eq_yosys :
    ∀ p ∈ flopTable, ∀ d e s r q : Bool, yosysNext p.1 d e s r q = some (p.2 d e s r q) := by
  decide +kernel

/-- the parser's name list and the table agree (the source comment asks for exactly this) -/
theorem dff_names_eq_table_keys : dffNames = flopTable.map (·.1) := rfl

/-- no cell name is listed twice (a second entry would be unreachable in the dict) -/
theorem dff_names_nodup : dffNames.Nodup := by
  -- comparing strings is slow in the kernel; the names differ already as numbers (their bytes, base 256)
  have h : (dffNames.map fun s => s.toByteArray.data.toList.foldl (fun n c => 256 * n + c.toNat) 0).Nodup := by
    decide +kernel
  exact h.of_map _ fun _ _ hne e => hne (by rw [e])

/-- the special-cased covers are the generic on-set semantics of their token lists, and drive the
    signal listed after their inputs: the `Int` of an entry of `coverSpecials` (and of `coverEmpty`) is
    the `K` of `output_wire = twire(netio[K])`, an index into the signal list of `.names` (`-1`: the last),
    so it has to be the number of input columns -/
theorem cover_specials_eq_sem :
    ∀ c ∈ coverSpecials, ∀ x0 x1 : Bool,
      c.2.2 x0 x1 = coverSem (rowsOf c.1) ([x0, x1].take c.2.1.toNat) ∧
      (∀ row ∈ rowsOf c.1, (row.length : Int) = c.2.1) := by
  decide +kernel

/-- an empty cover is constant 0 on the last listed signal -/
theorem cover_empty : coverEmpty = (-1, false) ∧ coverSem [] [] = false := by decide

theorem genericRow_eq (row : List Char) (ins : List Bool) : genericRow row ins = rowMatches row ins := by
  induction row generalizing ins with
  | nil => cases ins <;> simp [genericRow, rowMatches]
  | cons c cs ih =>
    cases ins with
    | nil => simp [genericRow, rowMatches]
    | cons x xs =>
      have := ih xs
      simp only [genericRow, rowMatches, litMatches, convertVal, List.zip_cons_cons, List.filter_cons] at *
      by_cases hc : c = '-' <;> simp [hc, this]

/-- the generic branch (`rtl_any` of `rtl_all` of literals) is the BLIF on-set semantics -/
theorem cover_generic_eq_sem (rows : List (List Char)) (ins : List Bool) :
    genericCover rows ins = coverSem rows ins := by
  simp only [genericCover, coverSem, genericRow_eq]

/-- every .bench gate of the importer's chain computes the gate on **two** sources (one for
    NOT/BUFF) … -/
theorem bench_gates_two_sources_partial :
    ∀ g ∈ benchGates, ∀ x y : Bool,
      (g.1 ∈ ["NOT", "BUFF"] → benchSem g.1 [x] = some (g.2 [x])) ∧
      (g.1 ∉ ["NOT", "BUFF"] → benchSem g.1 [x, y] = some (g.2 [x, y])) := by
  decide +kernel

/-- … but **not** on more than two: the full statement (`∀ s, benchSem g s = some (impl s)`) is false
    of the tree as given — known finding `bench-nary-gate`, replayed on the real importer by the check. -/
theorem bench_nary_counterexample :
    ∃ g ∈ benchGates, ∃ s : List Bool, benchSem g.1 s ≠ some (g.2 s) :=
  ⟨("AND", bench_AND), List.Mem.head _, [true, true, false], by decide⟩

example : flopTable.length = 32 ∧ coverSem [['1', '-'], ['-', '0']] [false, false] = true := by decide

end Pyrtl.C12
