import Proofs.Props.C01
/-!
# C20 — exports are deterministic and read-only with respect to behaviour

PARTIAL by nature: process-level hash seeds and allocation order are runtime behaviour; the model
represents them as "the set is handed over as an arbitrary permutation of its elements".
Every emitter first sorts what it iterates (`_net_sorted`, `_name_sorted`,
`sorted(..., key=_trace_sort_key)`); Python's `sorted` is a stable merge sort.
-/
namespace Pyrtl.C20

/-- `sorted(l, key=key)` -/
def sortBy {α : Type} (key : α → Nat) (l : List α) : List α := l.mergeSort (fun a b => decide (key a ≤ key b))

/-- **Sorting by a key that is injective on the elements erases the iteration order**: whatever
    permutation of the set the hash seed / allocator produced, the sorted list is the same. -/
theorem sorted_perm_invariant {α : Type} (key : α → Nat) (l1 l2 : List α) (hp : l1.Perm l2)
    (hinj : ∀ a ∈ l1, ∀ b ∈ l1, key a = key b → a = b) :
    sortBy key l1 = sortBy key l2 := by
  unfold sortBy
  have hs := List.pairwise_mergeSort (le := fun a b => decide (key a ≤ key b))
    (fun a b c h1 h2 => by simp only [decide_eq_true_eq] at *; exact Nat.le_trans h1 h2)
    (fun a b => by simp only [Bool.or_eq_true, decide_eq_true_eq]; exact Nat.le_total _ _)
  refine List.Perm.eq_of_pairwise (le := fun a b => decide (key a ≤ key b) = true) ?_ (hs l1) (hs l2)
    ((List.mergeSort_perm l1 _).trans (hp.trans (List.mergeSort_perm l2 _).symm))
  intro a b ha hb hab hba
  simp only [decide_eq_true_eq] at hab hba
  exact hinj a (List.mem_mergeSort.1 ha) b (hp.mem_iff.2 (List.mem_mergeSort.1 hb)) (Nat.le_antisymm hab hba)

/-- hence any text emitted from the sorted list is the same for every iteration order -/
theorem emit_perm_invariant {α : Type} (key : α → Nat) (emit : List α → String) (l1 l2 : List α)
    (hp : l1.Perm l2) (hinj : ∀ a ∈ l1, ∀ b ∈ l1, key a = key b → a = b) :
    emit (sortBy key l1) = emit (sortBy key l2) := by
  rw [sorted_perm_invariant key l1 l2 hp hinj]

/-- When two elements share a key (memory write ports that share an enable wire, when the key was the
    enable alone: `_net_sorted` before the `fix:` commit 75c7e7b), the stable sort keeps their incoming order: the output depends on the
    permutation.  Witness. -/
theorem equal_keys_depend_on_order :
    sortBy (fun p : Nat × Nat => p.1) [(1, 10), (1, 20)] ≠ sortBy (fun p : Nat × Nat => p.1) [(1, 20), (1, 10)] := by
  unfold sortBy
  rw [List.mergeSort_of_pairwise (by decide), List.mergeSort_of_pairwise (by decide)]
  decide

/-- **The documented valuation does not depend on the iteration order of the block** (re-export of
    `C01.spec_order_independent`; for `Simulation`'s own evaluator: `C01.pysim_order_independent`): any two
    dependency orders give every wire the same value. -/
theorem sim_trace_perm_invariant (b : Block) (st : State) (o1 o2 : List Net) (e : Env)
    (hp : ∀ n, n ∈ o1 ↔ n ∈ o2) (h1 : isTopo o1 = true) (h2 : isTopo o2 = true) :
    ∀ w, evalNets b st o1 e w = evalNets b st o2 e w :=
  C01.spec_order_independent b st o1 o2 e hp h1 h2

example : sortBy (fun n : Nat => n) [3, 1, 2] = sortBy (fun n : Nat => n) [2, 3, 1] :=
  sorted_perm_invariant _ _ _ (by decide) (by intro a _ b _ h; exact h)

end Pyrtl.C20
