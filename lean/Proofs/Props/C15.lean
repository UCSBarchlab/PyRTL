import Model.Gen.InputCheck
import Proofs.Props.C16
import Mathlib.Data.Nat.Digits.Defs
/-!
# C15 — observation channels agree; illegal inputs are refused

The three input-validation conditions are regenerated from simulation.py / compilesim.py on every run
(`Gen.InputCheck`).  The text channels (print_trace, print_vcd) write each value as its digits in
base 2/8/10/16; digits decode to the value.
-/
namespace Pyrtl.C15
open Pyrtl.Gen.InputCheck

/-- **Simulation.step** refuses exactly the values outside `[0, 2^w)`. -/
theorem sim_input_check_iff (v : Int) (w : Nat) (hw : 1 ≤ w) :
    simRejects v (w : Int) = false ↔ 0 ≤ v ∧ v < ((2 ^ w : Nat) : Int) := by
  simp only [simRejects, Bool.false_or, Bool.or_eq_false_iff, decide_eq_false_iff_not, Int.not_lt, gt_iff_lt]
  refine and_congr_right fun hv => ?_
  obtain ⟨n, rfl⟩ := Int.eq_ofNat_of_zero_le hv
  rw [C16.binLen_le_iff hw, Int.ofNat_lt]

/-- **FastSimulation.step** refuses exactly the values outside `[0, 2^w)`. -/
theorem fast_input_check_iff (v : Int) (w : Nat) :
    fastRejects v (w : Int) = false ↔ 0 ≤ v ∧ v < ((2 ^ w : Nat) : Int) := by
  simp only [fastRejects, pyShl_one, Bool.or_eq_false_iff, decide_eq_false_iff_not]
  omega

/-- **CompiledSimulation.run** refuses exactly the values outside `[0, 2^w)` (false of the tree as first
    given, which accepted negative values; repaired by the `fix:` commit fb1b4bd). -/
theorem compiled_input_check_iff (v : Int) (w : Nat) :
    compiledRejects v (w : Int) = false ↔ 0 ≤ v ∧ v < ((2 ^ w : Nat) : Int) := by
  simp only [compiledRejects, pyShl_one, Bool.or_eq_false_iff, decide_eq_false_iff_not]
  omega

theorem eq_of_false_iff {x y : Bool} {p : Prop} (hx : x = false ↔ p) (hy : y = false ↔ p) : x = y := by
  cases x <;> cases y <;> simp_all

/-- hence the three simulators refuse exactly the same input values -/
theorem input_checks_agree (v : Int) (w : Nat) (hw : 1 ≤ w) :
    simRejects v (w : Int) = fastRejects v (w : Int) ∧ fastRejects v (w : Int) = compiledRejects v (w : Int) :=
  ⟨eq_of_false_iff (sim_input_check_iff v w hw) (fast_input_check_iff v w),
   eq_of_false_iff (fast_input_check_iff v w) (compiled_input_check_iff v w)⟩

/-- the digit expansion `Nat.digits` in any base decodes to the value (Mathlib's `Nat.ofDigits_digits`).
    That the text channels print that expansion (`print_trace` in bases 2, 8, 10, 16; `print_vcd` in base 2)
    is checked by decoding their real output (tools/checks/c15.py). -/
theorem digits_decode (b n : Nat) : Nat.ofDigits b (Nat.digits b n) = n :=
  Nat.ofDigits_digits b n

example : simRejects (-1) 4 = true ∧ simRejects 16 4 = true ∧ simRejects 15 4 = false := by decide
example : compiledRejects (-1) 1 = true := by decide

end Pyrtl.C15
