import Proofs.Lemmas.FastSimOps
import Proofs.Lemmas.FastSelect
import Proofs.Props.C01
import Proofs.Lemmas.CLimb
import Proofs.Lemmas.CLimbCat
import Proofs.Lemmas.FastRun
/-!
# C02 — FastSimulation and CompiledSimulation are observably identical to Simulation

`FastSim.exec` is the value of the Python expression `FastSimulation._compiled` emits for a net; the
per-op expression templates, the statement template `res = mask & (expr)` and the
`_no_mask_bitwidth` table are regenerated from simulation.py on every run (`Gen.FastEmit`).
-/
namespace Pyrtl.C02
open Pyrtl.FastSim Pyrtl.C01

/-- The bitwidth agreements `sanity_check_net` enforces on a net's arguments (core.py:760-775):
    two-operand ops have equal argument widths, both mux data inputs have equal widths. -/
def SaneWidths (op : Op) (args : List (Nat × Nat)) : Prop :=
  match op, args with
  | .mux, [_, (wf, _), (wt, _)] => wf = wt
  | .concat, _ => True
  | _, [(w1, _), (w2, _)] => w1 = w2
  | _, _ => True

/-- **FastSimulation, per net, every simple op and `c`, all widths, all in-range values**: the
    emitted expression — including the decision to drop the mask — evaluates to the documented
    function truncated to the destination width.  The mask may be dropped only because the
    arguments are in range and `sanity_check` guarantees matching widths; both facts are explicit
    hypotheses.  (`s` is `fast_select_eq_spec` below; `m`/`@`/`r` are state, see C08.) -/
theorem fast_exec_eq_spec (op : Op) (args : List (Nat × Nat)) (dw : Nat)
    (hr : InRange args) (hs : SaneWidths op args) (hsel : ∀ idx, op ≠ .select idx) :
    FastSim.exec op (castArgs args) dw = ((Spec.comb op args dw : Nat) : Int) := by
  -- per op: the emitted expression on casts is the cast of the `Nat` function; `maskUnless` then asks that its value
  -- fit the width at which the table drops the mask.  By the number of arguments: an op that does not take that many
  -- computes to 0 on both sides.  (`exec.eq_def`, `Spec.comb.eq_def`: unfolding to the `match` is cheaper than making
  -- the equation lemmas of these two large definitions.)
  open Gen.FastEmit in
  by_cases hc : op = .concat
  · subst hc
    simp only [castArgs, exec.eq_def, Spec.comb.eq_def, noMask_concat, concatStart_eq args hr, widthSum_cast]
    exact maskUnless (Spec.concatVal_lt args hr)
  rcases args with _ | ⟨⟨w1, a⟩, _ | ⟨⟨w2, b⟩, _ | ⟨⟨w3, c⟩, _ | _⟩⟩⟩
  · cases op with
    | concat => exact absurd rfl hc
    | _ => rfl
  · have ha : a < 2 ^ w1 := hr (w1, a) (by simp)
    simp only [castArgs, List.map_cons, List.map_nil]
    cases op with
    | concat => exact absurd rfl hc
    | select idx => exact absurd rfl (hsel idx)
    | w =>
      simp only [exec.eq_def, Spec.comb.eq_def, noMask_w, plain_w, masked_w, List.getD_cons_zero]
      exact maskUnless ha
    | inv =>
      simp only [exec.eq_def, Spec.comb.eq_def, noMask_inv, plain_inv, masked_inv, eqW_neg, Bool.false_eq_true,
        if_false]
      exact mask_not_nat a dw
    | _ => rfl
  · have ha : a < 2 ^ w1 := hr (w1, a) (by simp)
    have hb : b < 2 ^ w2 := hr (w2, b) (by simp)
    simp only [castArgs, List.map_cons, List.map_nil]
    cases op with
    | concat => exact absurd rfl hc
    | and | or | xor =>
      obtain rfl : w1 = w2 := hs
      simp only [exec.eq_def, Spec.comb.eq_def, noMask_and, plain_and, masked_and, noMask_or, plain_or, masked_or,
        noMask_xor, plain_xor, masked_xor, List.getD_cons_zero, pyAnd_nat, pyOr_nat, pyXor_nat]
      exact maskUnless (Nat.bitwise_lt_two_pow ha hb)
    | nand =>
      simp only [exec.eq_def, Spec.comb.eq_def, noMask_nand, plain_nand, masked_nand, eqW_neg, Bool.false_eq_true,
        if_false, pyAnd_nat]
      exact mask_not_nat _ dw
    | add =>
      obtain rfl : w1 = w2 := hs
      simp only [exec.eq_def, Spec.comb.eq_def, noMask_add, plain_add, masked_add, List.getD_cons_zero,
        ← Int.natCast_add]
      exact maskUnless (Nat.max_self w1 ▸ add_lt_two_pow_max ha hb)
    | sub =>
      simp only [exec.eq_def, Spec.comb.eq_def, noMask_sub, plain_sub, masked_sub, eqW_neg, Bool.false_eq_true,
        if_false]
      exact mask_and_toNat _ dw
    | mul =>
      simp only [exec.eq_def, Spec.comb.eq_def, noMask_mul, plain_mul, masked_mul, List.getD_cons_zero,
        List.getD_cons_succ, ← Int.natCast_mul]
      exact maskUnless (mul_lt_two_pow ha hb)
    | lt | gt | eq =>
      simp only [exec.eq_def, Spec.comb.eq_def, noMask_lt, plain_lt, masked_lt, noMask_gt, plain_gt, masked_gt,
        noMask_eq, plain_eq, masked_eq, PySim.ofBool_nat, GT.gt, Int.ofNat_lt, Int.natCast_inj]
      refine maskUnless (v := 1) ?_
      split <;> decide
    | _ => rfl
  · simp only [castArgs, List.map_cons, List.map_nil]
    cases op with
    | concat => exact absurd rfl hc
    | mux =>
      obtain rfl : w2 = w3 := hs
      simp only [exec.eq_def, Spec.comb.eq_def, noMask_mux, plain_mux, masked_mux, List.getD_cons_zero,
        List.getD_cons_succ, PySim.mux_nat]
      refine maskUnless ?_
      split
      · exact hr (w2, b) (by simp)
      · exact hr (w2, c) (by simp)
    | _ => rfl
  · cases op with
    | concat => exact absurd rfl hc
    | _ => rfl

/-- Hence FastSimulation and Simulation store the same value for every such net. -/
theorem fast_exec_eq_pysim (op : Op) (args : List (Nat × Nat)) (dw : Nat)
    (hr : InRange args) (hs : SaneWidths op args) (hsel : ∀ idx, op ≠ .select idx) :
    FastSim.exec op (castArgs args) dw = ((PySim.exec op (castArgs args) dw : Nat) : Int) := by
  rw [fast_exec_eq_spec op args dw hr hs hsel, pysim_exec_eq_spec op args dw hr]

/-- **`s` nets**: FastSimulation splits the index tuple into runs of consecutive ascending bits and
    emits, per run, one of three shifted/masked shapes (regenerated from `make_split` on every run)
    joined by `|`; for every index tuple within the argument (repeats, reversals, gaps), every argument
    and destination width and every in-range value this is the documented bit selection — including
    the elision of the outer mask when the destination is as wide as the tuple, and of the inner mask
    when a run ends at the argument's top bit. -/
theorem fast_select_eq_spec (idx : List Nat) (wa a dw : Nat) (ha : a < 2 ^ wa) (hi : ∀ b ∈ idx, b < wa) :
    FastSim.exec (.select idx) (castArgs [(wa, a)]) dw
      = ((Spec.comb (.select idx) [(wa, a)] dw : Nat) : Int) := by
  simp only [castArgs, List.map_cons, List.map_nil, FastSim.exec, Spec.comb,
    selectExpr_eq ha hi, Gen.FastEmit.noMask_select]
  exact maskUnless (Spec.selectVal_lt idx a)

/-- … so FastSimulation and Simulation agree on select nets too -/
theorem fast_select_eq_pysim (idx : List Nat) (wa a dw : Nat) (ha : a < 2 ^ wa) (hi : ∀ b ∈ idx, b < wa) :
    FastSim.exec (.select idx) (castArgs [(wa, a)]) dw
      = ((PySim.exec (.select idx) (castArgs [(wa, a)]) dw : Nat) : Int) := by
  rw [fast_select_eq_spec idx wa a dw ha hi,
    pysim_exec_eq_spec (.select idx) [(wa, a)] dw (List.forall_mem_singleton.mpr ha)]

-- a reversed partial select whose run ends at the top bit of a wider source (the mask matters)
example : FastSim.exec (.select [5, 4, 3, 2, 1, 0]) (castArgs [(8, 0xC0)]) 6 = 0 := by decide

-- the precedence witness: a mux net with a 2-bit destination and 4-bit data inputs
example : FastSim.exec .mux (castArgs [(1, 1), (4, 9), (4, 15)]) 2 = 3 := by decide
example : SaneWidths .mux [(1, 1), (4, 9), (4, 15)] := rfl

/-! `FastSim.step` is `FastSimulation.step` over the per-net expressions above (`FastSim.stepWith`, the skeleton
`Simulation.step` also has: `C01.pysim_step_eq_spec` is the same instance of `FastRun.stepWith_eq_spec` for `PySim.netFun`). -/

/-- what `sanity_check_net` guarantees for a net: argument widths agree, a select has one argument and its
    indices lie inside it.  `SaneWidths` reads only the first components; the widths stand in for the values
    (`saneWidths_map`). -/
def NetSane (b : Block) (n : Net) : Prop :=
  match n.op with
  | .select idx => ∃ a, n.args = [a] ∧ ∀ i ∈ idx, i < b.width a
  | op => SaneWidths op ((n.args.map b.width).zip (n.args.map b.width))

/-- the statement FastSimulation generates for a net stores the documented value -/
theorem fast_netFun_eq_spec (b : Block) (st : State) (n : Net) (vals : List Nat)
    (hlen : vals.length = n.args.length)
    (hs : match n.op with
          | .select idx => ∃ a, n.args = [a] ∧ ∀ i ∈ idx, i < b.width a
          | op => SaneWidths op ((n.args.map b.width).zip vals))
    (hr : InRange ((n.args.map b.width).zip vals)) :
    FastSim.netFun b st n vals = Pyrtl.netFun b st n vals := by
  unfold FastSim.netFun Pyrtl.netFun
  cases hop : n.op with
  | mread m => exact PySim.san_nat
  | select idx =>
    obtain ⟨a, ha, hidx⟩ : ∃ a, n.args = [a] ∧ ∀ i ∈ idx, i < b.width a := by simpa only [hop] using hs
    obtain ⟨v, rfl⟩ := List.length_eq_one_iff.mp (hlen.trans (congrArg List.length ha))
    have h := fast_select_eq_spec idx (b.width a) v (b.width n.dest) (hr (b.width a, v) (by simp [ha])) hidx
    simp only [ha, List.map_cons, List.map_nil, List.zip_cons_cons, List.zip_nil_right]
    exact (congrArg Int.toNat h).trans (Int.toNat_natCast _)
  | _ =>
    simp only [hop] at hs
    simp only [zip_cast]
    rw [fast_exec_eq_spec _ _ _ hr hs (by intro idx h; cases h), Int.toNat_natCast]

theorem saneWidths_map (op : Op) (f : Nat × Nat → Nat) (l : List (Nat × Nat)) :
    SaneWidths op (l.map fun p => (p.1, f p)) ↔ SaneWidths op l := by
  match l with
  | [] => exact Iff.rfl
  | [_] | [_, _] | [_, _, _] | _ :: _ :: _ :: _ :: _ => cases op <;> exact Iff.rfl

theorem fast_nfOk (b : Block) (order : List Net) (hs : ∀ n ∈ order, NetSane b n) :
    FastRun.NfOk b order (FastSim.netFun b) := by
  intro st n hn vals hlen hr
  refine fast_netFun_eq_spec b st n vals hlen ?_ hr
  have h := hs n hn
  unfold NetSane at h
  split at h
  · exact h
  · rw [← saneWidths_map _ (·.1), ← List.zip_map', List.map_fst_zip (by simp [hlen])]
    exact h

/-- **One cycle of FastSimulation** = the documented cycle semantics, state correspondence kept -/
theorem fastsim_step_eq_spec (b : Block) (order : List Net) (hwf : C01.WF b order) (hs : ∀ n ∈ order, NetSane b n)
    (s : PySim.Sim) (st : State) (hinv : C01.Inv b s st) (inp : Env) (hin : C01.InputsOk b inp) :
    (∀ w, C01.Good b order w →
        (FastSim.step b order (writeNets b) s inp).1 w = (Pyrtl.step b order st inp).1 w ∧
        (Pyrtl.step b order st inp).1 w < 2 ^ b.width w) ∧
    C01.Inv b (FastSim.step b order (writeNets b) s inp).2 (Pyrtl.step b order st inp).2 :=
  FastRun.stepWith_eq_spec b order (FastSim.netFun b) (fast_nfOk b order hs) hwf s st hinv inp hin

/-- **Whole runs of FastSimulation**, any number of cycles: every meaningful wire, every cycle, has the value of
    the documented semantics — hence the value `Simulation` traces (`C01.pysim_run_eq_spec`) -/
theorem fastsim_run_eq_spec (b : Block) (order : List Net) (hwf : C01.WF b order) (hs : ∀ n ∈ order, NetSane b n) :
    ∀ (inps : List Env) (s : PySim.Sim) (st : State), C01.Inv b s st → (∀ inp ∈ inps, C01.InputsOk b inp) →
      C01.RunsAgree b order (FastSim.run b order (writeNets b) s inps) (Pyrtl.run b order st inps) :=
  FastRun.runWith_eq_spec b order (FastSim.netFun b) (fast_nfOk b order hs) hwf

/-- `Simulation.step` is the same skeleton over its own net function -/
theorem pysim_step_is_stepWith (b : Block) (order wr : List Net) (s : PySim.Sim) (inp : Env) :
    PySim.step b order wr s inp = FastSim.stepWith (PySim.netFun b) b order wr s inp := rfl

/-! `CLimb.emit*` are the statements `CompiledSimulation._build_*` writes for one net (the generated text is
parsed and compared with these programs, statement by statement, on every run: tools/checks/c02.py
`climb_tie`); `CLimb.execList` is the semantics of that C fragment; `CLimb.Enc σ k V` says that argument
`k` is stored as the limbs of `V`; `CLimb.destVal σ L` is the number held by the `L` destination limbs. -/

/-- **`+` in the C backend**: for operands of any widths — any number of limbs, carries detected by the
    two comparisons, top limb masked only when the destination is narrower than the natural width — the
    destination holds exactly what the documented semantics give. -/
theorem compiled_add_eq_spec (σ0 : CLimb.Env) (wa wb wd A B : Nat) (hA : A < 2 ^ wa) (hB : B < 2 ^ wb)
    (h0 : CLimb.Enc σ0 0 A) (h1 : CLimb.Enc σ0 1 B) (hwd1 : 0 < wd) (hwd : wd ≤ max wa wb + 1) :
    CLimb.destVal (CLimb.execList σ0 (CLimb.emitAdd wa wb wd)) (CLimb.limbs wd)
      = Spec.comb .add [(wa, A), (wb, B)] wd :=
  CLimb.emitAdd_correct wd hA hB h0 h1

/-- **`w`**: the limbs copied; a raw net whose destination is narrower than its source keeps the low bits -/
theorem compiled_wire_eq_spec (σ0 : CLimb.Env) (wa wd A : Nat) (hA : A < 2 ^ wa) (h0 : CLimb.Enc σ0 0 A) (hwd : 0 < wd) :
    CLimb.destVal (CLimb.execList σ0 (CLimb.emitWire wa wd)) (CLimb.limbs wd) = Spec.comb .w [(wa, A)] wd :=
  CLimb.emitWire_correct wd hA h0

/-- **`&`, `|`, `^`** on operands of any (also different) numbers of limbs -/
theorem compiled_and_eq_spec (σ0 : CLimb.Env) (wa wb wd A B : Nat) (hA : A < 2 ^ wa) (hB : B < 2 ^ wb)
    (h0 : CLimb.Enc σ0 0 A) (h1 : CLimb.Enc σ0 1 B) (hwd : 0 < wd) :
    CLimb.destVal (CLimb.execList σ0 (CLimb.emitBitwise .and wa wb wd)) (CLimb.limbs wd)
      = Spec.comb .and [(wa, A), (wb, B)] wd :=
  CLimb.emitBitwise_correct .and wd hA hB h0 h1

theorem compiled_or_eq_spec (σ0 : CLimb.Env) (wa wb wd A B : Nat) (hA : A < 2 ^ wa) (hB : B < 2 ^ wb)
    (h0 : CLimb.Enc σ0 0 A) (h1 : CLimb.Enc σ0 1 B) (hwd : 0 < wd) :
    CLimb.destVal (CLimb.execList σ0 (CLimb.emitBitwise .or wa wb wd)) (CLimb.limbs wd)
      = Spec.comb .or [(wa, A), (wb, B)] wd :=
  CLimb.emitBitwise_correct .or wd hA hB h0 h1

theorem compiled_xor_eq_spec (σ0 : CLimb.Env) (wa wb wd A B : Nat) (hA : A < 2 ^ wa) (hB : B < 2 ^ wb)
    (h0 : CLimb.Enc σ0 0 A) (h1 : CLimb.Enc σ0 1 B) (hwd : 0 < wd) :
    CLimb.destVal (CLimb.execList σ0 (CLimb.emitBitwise .xor wa wb wd)) (CLimb.limbs wd)
      = Spec.comb .xor [(wa, A), (wb, B)] wd :=
  CLimb.emitBitwise_correct .xor wd hA hB h0 h1

theorem b2n_decide (p : Prop) [Decidable p] : CLimb.b2n (decide p) = (if p then 1 else 0) % 2 ^ 1 := by
  by_cases h : p <;> simp [CLimb.b2n, h]

/-- **`=`**: the `&&` chain over the limbs is the equality of the values -/
theorem compiled_eq_eq_spec (σ0 : CLimb.Env) (wa wb A B : Nat) (hA : A < 2 ^ wa) (hB : B < 2 ^ wb)
    (h0 : CLimb.Enc σ0 0 A) (h1 : CLimb.Enc σ0 1 B) (hwa : 0 < wa) :
    (CLimb.execList σ0 (CLimb.emitEq wa wb)).get (.dest 0) = Spec.comb .eq [(wa, A), (wb, B)] 1 :=
  (CLimb.emitEq_correct hA hB h0 h1 hwa).trans (b2n_decide _)

/-- **`<`, `>`**: the chain `c_n || (eq_n && inner)` built from the least significant limb outwards is the
    comparison of the values -/
theorem compiled_lt_eq_spec (σ0 : CLimb.Env) (wa wb A B : Nat) (hA : A < 2 ^ wa) (hB : B < 2 ^ wb)
    (h0 : CLimb.Enc σ0 0 A) (h1 : CLimb.Enc σ0 1 B) (hwa : 0 < wa) :
    (CLimb.execList σ0 (CLimb.emitCmp true wa wb)).get (.dest 0) = Spec.comb .lt [(wa, A), (wb, B)] 1 :=
  (CLimb.emitCmp_correct true hA hB h0 h1 hwa).trans (b2n_decide _)

theorem compiled_gt_eq_spec (σ0 : CLimb.Env) (wa wb A B : Nat) (hA : A < 2 ^ wa) (hB : B < 2 ^ wb)
    (h0 : CLimb.Enc σ0 0 A) (h1 : CLimb.Enc σ0 1 B) (hwa : 0 < wa) :
    (CLimb.execList σ0 (CLimb.emitCmp false wa wb)).get (.dest 0) = Spec.comb .gt [(wa, A), (wb, B)] 1 :=
  (CLimb.emitCmp_correct false hA hB h0 h1 hwa).trans (b2n_decide _)

/-- **`x`**: the select limb tested against zero decides which data input is copied; the two may differ in width, and
    each is truncated to the destination -/
theorem compiled_mux_eq_spec (σ0 : CLimb.Env) (wf wt wd Sv F T : Nat) (hS : Sv < 2 ^ 1) (hF : F < 2 ^ wf)
    (hT : T < 2 ^ wt) (hs : CLimb.Enc σ0 0 Sv) (h1 : CLimb.Enc σ0 1 F) (h2 : CLimb.Enc σ0 2 T) (hwd : 0 < wd) :
    CLimb.destVal (CLimb.execList σ0 (CLimb.emitMux wf wt wd)) (CLimb.limbs wd)
      = Spec.comb .mux [(1, Sv), (wf, F), (wt, T)] wd :=
  CLimb.emitMux_correct wd hS hF hT hs h1 h2

/-- **`-`**: borrows detected by the two comparisons; the destination holds the difference modulo `2^wd` -/
theorem compiled_sub_eq_spec (σ0 : CLimb.Env) (wa wb wd A B : Nat) (hA : A < 2 ^ wa) (hB : B < 2 ^ wb)
    (h0 : CLimb.Enc σ0 0 A) (h1 : CLimb.Enc σ0 1 B) (hwd1 : 0 < wd) :
    CLimb.destVal (CLimb.execList σ0 (CLimb.emitSub wa wb wd)) (CLimb.limbs wd)
      = Spec.comb .sub [(wa, A), (wb, B)] wd :=
  CLimb.emitSub_correct wd hA hB h0 h1

/-- **`~`**: every limb complemented, the partial top limb always masked -/
theorem compiled_not_eq_spec (σ0 : CLimb.Env) (wa wd A : Nat) (hA : A < 2 ^ wa) (h0 : CLimb.Enc σ0 0 A) (hwd : 0 < wd) :
    CLimb.destVal (CLimb.execList σ0 (CLimb.emitNot wd)) (CLimb.limbs wd) = Spec.comb .inv [(wa, A)] wd :=
  CLimb.emitNot_correct wd hA h0

/-- **`nand`**: the AND of the operand limbs complemented, the partial top limb always masked as for `~` -/
theorem compiled_nand_eq_spec (σ0 : CLimb.Env) (wa wb wd A B : Nat) (hA : A < 2 ^ wa) (hB : B < 2 ^ wb)
    (h0 : CLimb.Enc σ0 0 A) (h1 : CLimb.Enc σ0 1 B) (hwd : 0 < wd) :
    CLimb.destVal (CLimb.execList σ0 (CLimb.emitNand wa wb wd)) (CLimb.limbs wd)
      = Spec.comb .nand [(wa, A), (wb, B)] wd :=
  CLimb.emitNand_correct wd hA hB h0 h1

/-- **`*`** at the natural destination width `len(a) + len(b)` (what every API-built multiplication has):
    schoolbook multiplication over 64-bit limbs — 128-bit partial products through `mul128`, the two carry
    detections per cell, the row carry stored in (or, when the product cannot reach it, dropped from) the next
    limb — leaves exactly `A * B` in the destination, for operands of any number of limbs.
    PARTIAL: raw nets whose destination is narrower than `len(a)+len(b)` (masked/truncated rows) are covered
    by the text tie and the value comparison only. -/
theorem compiled_mul_eq_spec_partial (σ0 : CLimb.Env) (wa wb A B : Nat) (hwa : 0 < wa) (hwb : 0 < wb)
    (hA : A < 2 ^ wa) (hB : B < 2 ^ wb) (h0 : CLimb.Enc σ0 0 A) (h1 : CLimb.Enc σ0 1 B) :
    CLimb.destVal (CLimb.execList σ0 (CLimb.emitMul wa wb (wa + wb))) (CLimb.limbs (wa + wb))
      = Spec.comb .mul [(wa, A), (wb, B)] (wa + wb) :=
  (CLimb.emitMul_correct hA hB h0 h1).trans (Nat.mod_eq_of_lt (mul_lt_two_pow hA hB)).symm

/-- **`s`** (select): every index tuple, source and destination of any number of limbs; a destination narrower
    than the tuple keeps the low bits -/
theorem compiled_select_eq_spec (σ0 : CLimb.Env) (idx : List Nat) (wa wd A : Nat) (h0 : CLimb.Enc σ0 0 A)
    (hwd : wd ≤ idx.length) :
    CLimb.destVal (CLimb.execList σ0 (CLimb.emitSelect idx wd)) (CLimb.limbs wd)
      = Spec.comb (.select idx) [(wa, A)] wd :=
  (CLimb.emitSelect_correct σ0 idx wd A h0).trans (Spec.selectVal_mod idx wd A).symm

/-- **`c`** (concat) at the natural destination width (the sum of the argument widths): the arguments are cut
    into pieces of at most one limb, packed into the destination limbs, pieces that cross a limb boundary being
    continued in the next limb; the destination holds the documented concatenation, first argument most
    significant.  PARTIAL: a raw destination narrower than the arguments together is covered by the text tie
    and the value comparison only. -/
theorem compiled_concat_eq_spec_partial (σ0 : CLimb.Env) (ws : List Nat) (Vs : Nat → Nat) (hne : ws ≠ [])
    (hpos : ∀ w ∈ ws, 0 < w) (henc : ∀ k, CLimb.Enc σ0 k (Vs k)) (hlt : ∀ p ∈ ws.zipIdx, Vs p.2 < 2 ^ p.1) :
    CLimb.destVal (CLimb.execList σ0 (CLimb.emitConcat ws ws.sum)) (CLimb.limbs ws.sum)
      = Spec.comb .concat (ws.zipIdx.map fun p => (p.1, Vs p.2)) ws.sum := by
  rw [CLimb.emitConcat_correct henc hlt, Spec.comb_concat (List.forall_mem_map.mpr hlt)]
  rw [List.map_map]
  exact congrArg List.sum (List.zipIdx_map_fst 0 ws)

-- the hypotheses are satisfiable; a two-limb addition with a carry across the limb boundary
example : CLimb.destVal (CLimb.execList ⟨[(.arg 0 0, 2 ^ 64 - 1), (.arg 0 1, 1), (.arg 1 0, 1), (.arg 1 1, 0)]⟩
    (CLimb.emitAdd 65 65 66)) (CLimb.limbs 66) = (2 ^ 64 - 1 + 2 ^ 64) + 1 := by decide +kernel

end Pyrtl.C02
