import Model.Gen.Conv
import Proofs.Lemmas.PyInt
/-!
# C16 — value conversion helpers are range-exact and mutually inverse

`Gen.Conv.*` are obtained on every run by symbolic execution of the Python function bodies
(helperfuncs.py, rtllib/libutils.py): `none` where the code raises, `some …` where it returns.
`pyNone` is the sentinel for an omitted bitwidth.

The theorems cover `convertInt` on three of its branches (a non-negative value, unsigned, with and without
a bitwidth; a negative value with a bitwidth), `valToSigned`, and one direction of "inverse": a negative
value encoded by `convertInt` is read back by `valToSigned`.  The signed non-negative branch, the negative
branch without a bitwidth, `convertBool`, `twosCompRepr` and `revTwosCompRepr` have no theorem: they are
compared with the real functions and with exact integer arithmetic by tools/checks/c16.py.
-/
namespace Pyrtl.C16
open Pyrtl.Gen.Conv

theorem bitLen_le_iff (n w : Nat) (hn : n ≠ 0) : bitLen n ≤ w ↔ n < 2 ^ w := by
  simp only [bitLen, hn, if_false]
  have := @Nat.log2_lt n w hn
  omega

theorem binLen_pos (n : Nat) (hn : n ≠ 0) : pyBinLen (n : Int) - 2 = (bitLen n : Int) := by
  cases n with
  | zero => exact absurd rfl hn
  | succ k =>
    show pyBinLenMinus2 (Int.ofNat (k + 1)) + 2 - 2 = _
    simp only [pyBinLenMinus2]
    omega

theorem binLen_zero : pyBinLen (0 : Int) - 2 = 1 := by decide

/-- `len(bin(v)) - 2 ≤ w` says that `v` fits `w` bits (`bin(0)` has one digit, hence `1 ≤ w`) -/
theorem binLen_le_iff {v w : Nat} (hw : 1 ≤ w) : pyBinLen (v : Int) - 2 ≤ (w : Int) ↔ v < 2 ^ w := by
  by_cases hz : v = 0
  · subst hz
    have := Nat.two_pow_pos w
    rw [Int.natCast_zero, binLen_zero]; omega
  · rw [binLen_pos v hz, Int.ofNat_le, bitLen_le_iff v w hz]

theorem natCast_ne_pyNone (w : Nat) : ¬ ((w : Int) = pyNone) := by simp only [pyNone]; omega

theorem natCast_pred {w : Nat} (hw : 1 ≤ w) : (w : Int) - 1 = ((w - 1 : Nat) : Int) := (Int.ofNat_sub hw).symm

/-- **Unsigned, explicit bitwidth**: a non-negative value is accepted exactly when it fits. -/
theorem infer_unsigned_accepts_iff (v w : Nat) (hw : 1 ≤ w) :
    convertInt (v : Int) (w : Int) false = (if v < 2 ^ w then some ((v : Int), (w : Int)) else none) := by
  simp only [convertInt, Int.natCast_nonneg v, decide_true, if_true, Bool.false_and, Bool.false_eq_true, if_false,
    natCast_ne_pyNone w, decide_false, decide_eq_true_eq, ← Int.not_le, binLen_le_iff hw, ite_not]

theorem shr_eq_neg_one_iff (x : Int) (k : Nat) :
    pyShr x (k : Int) = -1 ↔ (-(2 ^ k : Nat) : Int) ≤ x ∧ x < 0 := by
  rw [pyShr, Int.toNat_natCast, show (2 : Int) ^ k = ((2 ^ k : Nat) : Int) by norm_cast,
    Int.ediv_eq_iff_of_pos (two_pow_cast_pos k)]
  omega

/-- **Negative value, explicit bitwidth** (signed or not): accepted exactly when representable in
    two's complement, and the result is the two's-complement encoding `v mod 2^w`. -/
theorem infer_negative_accepts_iff (v : Int) (w : Nat) (hv : v < 0) (hw : 1 ≤ w) (signed : Bool) :
    convertInt v (w : Int) signed
      = (if (-(2 ^ (w - 1) : Nat) : Int) ≤ v then some (v % ((2 ^ w : Nat) : Int), (w : Int)) else none) := by
  have hv' : ¬ (v ≥ 0) := by omega
  simp only [convertInt, hv', decide_false, Bool.false_eq_true, if_false, natCast_ne_pyNone w, Bool.and_false,
    natCast_pred hw, shl_one_sub, pyAnd_mask, ne_eq, shr_eq_neg_one_iff, hv, and_true, decide_not, Bool.not_eq_true',
    decide_eq_false_iff_not, ite_not]

/-- **No bitwidth, unsigned**: the minimal width (`bit_length`, 1 for zero). -/
theorem infer_minimal_unsigned (v : Nat) :
    convertInt (v : Int) pyNone false
      = some ((v : Int), if v = 0 then 1 else (bitLen v : Int)) := by
  simp only [convertInt, Int.natCast_nonneg v, decide_true, if_true, Bool.false_and, Bool.false_eq_true, if_false]
  by_cases hz : v = 0
  · subst hz; simp [binLen_zero]
  · simp [binLen_pos v hz, hz]

/-- the width `infer_minimal_unsigned` returns is minimal -/
theorem bitLen_minimal (v : Nat) (hv : v ≠ 0) : v < 2 ^ bitLen v ∧ ¬ v < 2 ^ (bitLen v - 1) := by
  constructor
  · exact (bitLen_le_iff v _ hv).mp (Nat.le_refl _)
  · intro h
    have := (bitLen_le_iff v _ hv).mpr h
    have hb : 1 ≤ bitLen v := by simp [bitLen, hv]
    omega

theorem and_two_pow (v i : Nat) : v &&& 2 ^ i = if v.testBit i then 2 ^ i else 0 := by
  apply Nat.eq_of_testBit_eq
  intro j
  rw [Nat.testBit_and, Nat.testBit_two_pow]
  by_cases h : i = j
  · subst h
    by_cases t : v.testBit i <;> simp [t]
  · by_cases t : v.testBit i <;> simp [t, h]

theorem and_top_bit {v k : Nat} (hv : v < 2 ^ k + 2 ^ k) : v &&& 2 ^ k = if v < 2 ^ k then 0 else 2 ^ k := by
  rw [and_two_pow]
  by_cases c : v < 2 ^ k
  · rw [Nat.testBit_lt_two_pow c, if_pos c]; rfl
  · rw [Nat.testBit_of_two_pow_le_and_two_pow_add_one_gt (Nat.le_of_not_lt c) (by omega), if_neg c]; rfl

/-- **`val_to_signed_integer`** is the two's-complement reading. -/
theorem val_to_signed_spec (v w : Nat) (hw : 1 ≤ w) (hv : v < 2 ^ w) :
    valToSigned (v : Int) (w : Int)
      = some (if v < 2 ^ (w - 1) then (v : Int) else (v : Int) - ((2 ^ w : Nat) : Int)) := by
  rw [← Nat.two_pow_pred_add_two_pow_pred hw] at hv ⊢
  rw [valToSigned, if_neg (by rw [decide_eq_true_eq]; omega), natCast_pred hw, shl_one_sub, pyAnd_mask_nonneg,
    pyShl_one, pyAnd_nat, and_top_bit hv]
  refine congrArg some ?_
  by_cases c : v < 2 ^ (w - 1)
  · rw [if_pos c, if_pos c, Nat.mod_eq_of_lt c]; omega
  · rw [if_neg c, if_neg c, Nat.mod_eq_sub_mod (Nat.le_of_not_lt c), Nat.mod_eq_of_lt (by omega)]; omega

theorem valToSigned_emod (v : Int) (w : Nat) (hw : 1 ≤ w) :
    valToSigned (v % ((2 ^ w : Nat) : Int)) (w : Int) = some (v.bmod (2 ^ w)) := by
  have hc : (((2 ^ w : Nat) : Int) + 1) / 2 = ((2 ^ (w - 1) : Nat) : Int) := by
    rw [← Nat.two_pow_pred_add_two_pow_pred hw]
    omega
  rw [Int.bmod_def, ← emod_toNat_cast v w, val_to_signed_spec _ w hw (emod_toNat_lt v w)]
  simp only [hc, Int.ofNat_lt]

/-- **`val_to_signed_integer` inverts the signed encoding** produced for a negative value. -/
theorem signed_roundtrip_neg (v : Int) (w : Nat) (hv : v < 0) (hw : 1 ≤ w)
    (hr : (-(2 ^ (w - 1) : Nat) : Int) ≤ v) :
    ∃ n : Nat, convertInt v (w : Int) true = some ((n : Int), (w : Int)) ∧
      valToSigned (n : Int) (w : Int) = some v := by
  have h2 := Nat.two_pow_pred_add_two_pow_pred hw
  refine ⟨(v % ((2 ^ w : Nat) : Int)).toNat, ?_, ?_⟩
  · rw [infer_negative_accepts_iff v w hv hw true, if_pos hr, emod_toNat_cast v w]
  · rw [emod_toNat_cast v w, valToSigned_emod v w hw, Int.bmod_eq_of_le_mul_two (by omega) (by omega)]

-- the boundary the statement names: the most negative value of a width is accepted, one below is not
example : convertInt (-8) 4 false = some (8, 4) := by decide
example : convertInt (-9) 4 true = none := by decide
example : convertInt 3 2 true = none := by decide
example : valToSigned 255 8 = some (-1) := by decide

end Pyrtl.C16
