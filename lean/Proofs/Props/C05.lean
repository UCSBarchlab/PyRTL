import Model.Verilog.Emit
import Proofs.Props.C01
import Proofs.Lemmas.SpecVal
import Mathlib.Tactic.Ring  -- no `ring` below: the statements of this file read `2 ^ n` through Mathlib's instance
/-!
# C05 — the Verilog that `output_to_verilog` emits means what the netlist means

`Verilog.emitExpr` is the model of `_to_verilog_combinational` (tied to the real emitter by AST equality
on every run); `Verilog.assignVal` is IEEE 1364-2001 continuous-assignment semantics with its
expression-width rules.  The theorems say: for every primitive, all operand widths, all destination
widths and all in-range values, the emitted assignment stores exactly `Spec.comb`.
-/
namespace Pyrtl.C05
open Pyrtl.Verilog

variable (E : VEnv)

def InRange (E : VEnv) (a : String) : Prop := E.val a < 2 ^ E.width a

/-- the last step of every assignment: the value computed in the context width is cut to the target -/
theorem trunc_ctx (x a wd : Nat) : x % 2 ^ max a wd % 2 ^ wd = x % 2 ^ wd :=
  mod_mod_le (Nat.le_max_right _ _)

/-! The operands of `~ & | ^ + - *` and the arms of `?:` are cut to the context width, which is at least
the target's: after the final cut to the target those cuts are not seen, so these operands may hold any
value.  Self-determined operands (of a comparison, the condition of `?:`, the members of a concatenation,
an address) are read at their own width and have to fit it. -/

theorem assign_w (a : String) (wd : Nat) : assignVal E wd (.id a) = Spec.comb .w [(E.width a, E.val a)] wd := by
  simp only [assignVal, eval, selfW, Spec.comb, trunc_ctx]

theorem assign_inv (a : String) (wd : Nat) :
    assignVal E wd (.not (.id a)) = Spec.comb .inv [(E.width a, E.val a)] wd := by
  simp only [assignVal, eval, selfW, Spec.comb]
  rw [compl_trunc (Nat.le_max_right _ _)]

theorem assign_bitwise (a b : String) (wd : Nat) :
    assignVal E wd (.bin .and (.id a) (.id b)) = Spec.comb .and [(E.width a, E.val a), (E.width b, E.val b)] wd ∧
    assignVal E wd (.bin .or (.id a) (.id b)) = Spec.comb .or [(E.width a, E.val a), (E.width b, E.val b)] wd ∧
    assignVal E wd (.bin .xor (.id a) (.id b)) = Spec.comb .xor [(E.width a, E.val a), (E.width b, E.val b)] wd := by
  simp only [assignVal, eval, selfW, Spec.comb, binop, ← Nat.and_mod_two_pow, ← Nat.or_mod_two_pow,
    ← Nat.xor_mod_two_pow, trunc_ctx, and_self]

/-- `+` and `*` at any destination width (PyRTL uses `max+1` and `wa+wb`; narrower raw nets truncate) -/
theorem assign_add_mul (a b : String) (wd : Nat) :
    assignVal E wd (.bin .add (.id a) (.id b)) = Spec.comb .add [(E.width a, E.val a), (E.width b, E.val b)] wd ∧
    assignVal E wd (.bin .mul (.id a) (.id b)) = Spec.comb .mul [(E.width a, E.val a), (E.width b, E.val b)] wd := by
  simp only [assignVal, eval, selfW, Spec.comb, binop, ← Nat.add_mod, ← Nat.mul_mod, trunc_ctx, and_self]

/-- `-`: Verilog computes `a - b` modulo `2^W` in the context width; truncated, that is the two's
    complement difference modulo `2^wd` -/
theorem sub_trunc {x y W wd : Nat} (h : wd ≤ W) :
    (x % 2 ^ W + 2 ^ W - y % 2 ^ W) % 2 ^ W % 2 ^ wd
      = (((x : Int) - (y : Int)) % ((2 ^ wd : Nat) : Int)).toNat := by
  have hy := Nat.mod_lt y (Nat.two_pow_pos W)
  have e : ((x : Int) - y) % ((2 ^ W : Nat) : Int) = ((x % 2 ^ W + 2 ^ W - y % 2 ^ W) % 2 ^ W : Nat) := by
    rw [Int.natCast_mod, Int.sub_emod, ← Int.add_emod_right]
    congr 1
    omega
  rw [← emod_toNat_mod h, e, Int.toNat_natCast]

theorem assign_sub (a b : String) (wd : Nat) :
    assignVal E wd (.bin .sub (.id a) (.id b)) = Spec.comb .sub [(E.width a, E.val a), (E.width b, E.val b)] wd := by
  simp only [assignVal, eval, selfW, Spec.comb, binop]
  exact sub_trunc (Nat.le_max_right _ _)

theorem val_mod {a : String} {W : Nat} (ha : InRange E a) (hW : E.width a ≤ W) : E.val a % 2 ^ W = E.val a :=
  Nat.mod_eq_of_lt (lt_two_pow_of_le ha hW)

theorem assign_cmp (a b : String) (wd : Nat) (ha : InRange E a) (hb : InRange E b) :
    assignVal E wd (.cmp .lt (.id a) (.id b)) = Spec.comb .lt [(E.width a, E.val a), (E.width b, E.val b)] wd ∧
    assignVal E wd (.cmp .gt (.id a) (.id b)) = Spec.comb .gt [(E.width a, E.val a), (E.width b, E.val b)] wd ∧
    assignVal E wd (.cmp .eq (.id a) (.id b)) = Spec.comb .eq [(E.width a, E.val a), (E.width b, E.val b)] wd := by
  simp only [assignVal, eval, selfW, Spec.comb, cmpop, val_mod E ha (Nat.le_max_left _ _),
    val_mod E hb (Nat.le_max_right _ _), trunc_ctx, and_self]

/-- mux: PyRTL's argument order `(select, when-0, when-1)` is emitted as `s ? t : f` -/
theorem assign_mux (s f t : String) (wd : Nat) (hs : InRange E s) :
    assignVal E wd (.tern (.id s) (.id t) (.id f))
      = Spec.comb .mux [(E.width s, E.val s), (E.width f, E.val f), (E.width t, E.val t)] wd := by
  simp only [assignVal, eval, selfW, Spec.comb, Nat.mod_eq_of_lt hs, ne_eq, ite_not]
  split <;> exact trunc_ctx _ _ _

theorem evalCat_ids (vn : Nat → String) (args : List Nat) (acc : Nat) (h : ∀ a ∈ args, InRange E (vn a)) :
    evalCat E (args.map fun a => .id (vn a)) acc
      = Spec.concatVal (args.map fun a => (E.width (vn a), E.val (vn a))) acc := by
  induction args generalizing acc with
  | nil => rfl
  | cons a rest ih =>
    obtain ⟨ha, h⟩ := List.forall_mem_cons.mp h
    simp only [List.map_cons, evalCat, Spec.concatVal, selfW, eval, Nat.mod_eq_of_lt ha]
    exact ih _ h

theorem assign_concat (vn : Nat → String) (args : List Nat) (wd : Nat) (h : ∀ a ∈ args, InRange E (vn a)) :
    assignVal E wd (.cat (args.map fun a => .id (vn a)))
      = Spec.comb .concat (args.map fun a => (E.width (vn a), E.val (vn a))) wd := by
  simp only [assignVal, eval, Spec.comb, evalCat_ids E vn args 0 h, trunc_ctx]

def selMember (a : String) (wa : Nat) : Nat → VExpr := fun i => if wa > 1 then .bit a i else .id a

theorem selMember_val (a : String) (i : Nat) (hi : i < E.width a) :
    selfW E (selMember a (E.width a) i) = 1 ∧
    eval E 1 (selMember a (E.width a) i) = Spec.bit (E.val a) i := by
  unfold selMember
  by_cases h : E.width a > 1
  · simp only [h, ↓reduceIte, selfW, eval, Spec.bit, true_and]
    exact Nat.mod_eq_of_lt (Nat.mod_lt _ (by decide))
  · -- a scalar is emitted without an index; its only bit is bit 0
    have hw : E.width a = 1 := by omega
    have hi0 : i = 0 := by omega
    subst hi0
    simp only [hw, gt_iff_lt, Nat.lt_irrefl, ↓reduceIte, selfW, eval, true_and, Spec.bit, Nat.pow_zero,
      Nat.div_one, Nat.pow_one]

theorem evalCat_append (xs : List VExpr) (x : VExpr) (acc : Nat) :
    evalCat E (xs ++ [x]) acc = evalCat E xs acc * 2 ^ selfW E x + eval E (selfW E x) x := by
  induction xs generalizing acc with
  | nil => simp [evalCat]
  | cons y ys ih => simp only [List.cons_append, evalCat, ih]

/-- `{a[i_k], …, a[i_0]}`: a Verilog concatenation lists its most significant member first, a PyRTL select its least
    significant index first -/
theorem evalCat_select (a : String) (idx : List Nat) (hi : ∀ i ∈ idx, i < E.width a) :
    evalCat E (idx.reverse.map (selMember a (E.width a))) 0 = Spec.selectVal idx (E.val a) := by
  induction idx with
  | nil => rfl
  | cons i rest ih =>
    obtain ⟨h0, hi⟩ := List.forall_mem_cons.mp hi
    have hm := selMember_val E a i h0
    simp only [List.reverse_cons, List.map_append, List.map_cons, List.map_nil, evalCat_append, hm.1,
      hm.2, Spec.selectVal, ih hi]
    rw [Nat.pow_one, Nat.mul_comm, Nat.add_comm]

theorem assign_select (a : String) (idx : List Nat) (wd : Nat) (hi : ∀ i ∈ idx, i < E.width a) :
    assignVal E wd (.cat (idx.reverse.map (selMember a (E.width a))))
      = Spec.comb (.select idx) [(E.width a, E.val a)] wd := by
  simp only [assignVal, eval, Spec.comb, evalCat_select E a idx hi, trunc_ctx]

/-- asynchronous memory read port -/
theorem assign_mread (m a : String) (wd : Nat) (ha : InRange E a) :
    assignVal E wd (.mem m (.id a)) = E.memV m (E.val a) % 2 ^ wd := by
  simp only [assignVal, eval, selfW, Nat.mod_eq_of_lt ha, trunc_ctx]

/-- constants: `assign c = <decimal>` stores the constant (unsized literal, mathematical value) -/
theorem assign_const (v wd : Nat) (hv : v < 2 ^ wd) : assignVal E wd (.num none v) = v := by
  simp only [assignVal, eval, trunc_ctx, Nat.mod_eq_of_lt hv]

/-- `emitExpr` on seven sample nets: the shapes the `assign_*` lemmas are about, with the arms of the mux
    exchanged, the indices of the select reversed, `nand` refused -/
theorem emit_shapes (vn : Nat → String) (width : Nat → Nat) (a b c : Nat) (idx : List Nat) (args : List Nat) :
    emitExpr vn width ⟨.w, [a], [c]⟩ = some (.id (vn a)) ∧
    emitExpr vn width ⟨.inv, [a], [c]⟩ = some (.not (.id (vn a))) ∧
    emitExpr vn width ⟨.sub, [a, b], [c]⟩ = some (.bin .sub (.id (vn a)) (.id (vn b))) ∧
    emitExpr vn width ⟨.mux, [a, b, c], [c]⟩ = some (.tern (.id (vn a)) (.id (vn c)) (.id (vn b))) ∧
    emitExpr vn width ⟨.concat, args, [c]⟩ = some (.cat (args.map fun x => .id (vn x))) ∧
    emitExpr vn width ⟨.select idx, [a], [c]⟩ = some (.cat (idx.reverse.map (selMember (vn a) (width a)))) ∧
    emitExpr vn width ⟨.nand, [a, b], [c]⟩ = none := by
  refine ⟨rfl, rfl, rfl, rfl, ?_, rfl, rfl⟩
  cases args with
  | nil => rfl
  | cons x xs => cases xs <;> rfl

/-- **For every exportable combinational net** (all primitives but `nand`; memory reads in
    `assign_mread`), all operand and destination widths and all in-range values: the assignment
    emitted for the net stores, under Verilog's rules, exactly the value the netlist semantics gives
    the destination.  `vn` is the (sanitised) naming of wires; the environment declares each wire with
    its PyRTL width. -/
theorem emit_assign_eq_spec (b : Block) (vn : Nat → String) (n : Net) (e : VExpr)
    (hw : ∀ i, E.width (vn i) = b.width i)
    (hr : ∀ i ∈ n.args, InRange E (vn i))
    (hsel : ∀ idx, n.op = .select idx → ∀ a ∈ n.args, ∀ i ∈ idx, i < b.width a)
    (hm : ∀ m, n.op ≠ .mread m)
    (he : emitExpr vn b.width n = some e) :
    assignVal E (b.width n.dest) e
      = Spec.comb n.op (n.args.map fun i => (b.width i, E.val (vn i))) (b.width n.dest) := by
  obtain ⟨op, args, dests⟩ := n
  simp only at hr hsel hm he ⊢
  unfold emitExpr at he
  split at he <;> simp only [Option.some.injEq, reduceCtorEq] at he <;> subst_vars <;>
    simp only [List.map_cons, List.map_nil, ← hw]
  · exact assign_w E _ _
  · exact assign_inv E _ _
  · exact (assign_bitwise E _ _ _).1
  · exact (assign_bitwise E _ _ _).2.1
  · exact (assign_bitwise E _ _ _).2.2
  · exact (assign_add_mul E _ _ _).1
  · exact assign_sub E _ _ _
  · exact (assign_add_mul E _ _ _).2
  · exact (assign_cmp E _ _ _ (hr _ List.mem_cons_self) (hr _ (List.mem_cons_of_mem _ List.mem_cons_self))).1
  · exact (assign_cmp E _ _ _ (hr _ List.mem_cons_self) (hr _ (List.mem_cons_of_mem _ List.mem_cons_self))).2.1
  · exact (assign_cmp E _ _ _ (hr _ List.mem_cons_self) (hr _ (List.mem_cons_of_mem _ List.mem_cons_self))).2.2
  · exact assign_mux E _ _ _ _ (hr _ List.mem_cons_self)
  · exact assign_concat E vn args _ hr
  · rename_i idx a
    exact assign_select E (vn a) idx _ fun i hi => by rw [hw]; exact hsel idx rfl a List.mem_cons_self i hi
  · exact absurd rfl (hm _)

theorem emit_assign_eq_netFun (b : Block) (st : State) (vn : Nat → String) (n : Net) (e : VExpr)
    (hw : ∀ i, E.width (vn i) = b.width i)
    (hmem : ∀ m a, E.memV (memName m) a = memRead b st m a)
    (hr : ∀ i ∈ n.args, InRange E (vn i))
    (hsel : ∀ idx, n.op = .select idx → ∀ a ∈ n.args, ∀ i ∈ idx, i < b.width a)
    (he : emitExpr vn b.width n = some e) :
    assignVal E (b.width n.dest) e = netFun b st n (n.args.map fun i => E.val (vn i)) := by
  by_cases hmr : ∃ m, n.op = .mread m
  · obtain ⟨m, hop⟩ := hmr
    obtain ⟨_, args, _⟩ := n
    subst hop
    unfold emitExpr at he
    match args, he with
    | [a], he =>
      cases he
      rw [assign_mread E _ _ _ (hr a List.mem_cons_self), hmem]
      rfl
  · have hm : ∀ m, n.op ≠ .mread m := fun m h => hmr ⟨m, h⟩
    rw [emit_assign_eq_spec E b vn n e hw hr hsel hm he, netFun_comb b st n hm, List.zip_map']

/-- **Whole module, combinational part.**  Take any well-formed block (`C01.WF`: what sanity_check and
    the iteration order guarantee), any in-range state and inputs, and the valuation the documented
    cycle semantics gives every wire.  Read that valuation as a Verilog environment (each wire under its
    emitted name and declared width, each memory under `mem_<id>`).  Then **every continuous assignment
    the exporter emits is satisfied**: evaluating its right-hand side under IEEE 1364 width rules and
    truncating to the target yields exactly the value of the target.  Since the assignment system of an
    acyclic netlist has a unique solution (`C01.spec_consistent_exists_unique`), the emitted module's nets
    carry the netlist's values in every cycle. -/
theorem verilog_assigns_hold (b : Block) (order : List Net) (hwf : C01.WF b order) (htopo : isTopo order = true)
    (st : State) (hst : ∀ r, PySim.isReg b r = true → st.regs r < 2 ^ b.width r)
    (inp : Env) (hin : C01.InputsOk b inp) (vn : Nat → String)
    (hw : ∀ i, E.width (vn i) = b.width i)
    (hv : ∀ i, E.val (vn i) = (Pyrtl.step b order st inp).1 i)
    (hmem : ∀ m a, E.memV (memName m) a = memRead b st m a)
    (hsel : ∀ n ∈ order, ∀ idx, n.op = .select idx → ∀ a ∈ n.args, ∀ i ∈ idx, i < b.width a) :
    ∀ n ∈ order, ∀ e, emitExpr vn b.width n = some e →
      assignVal E (b.width n.dest) e = E.val (vn n.dest) := by
  intro n hn e he
  have hrange : ∀ a ∈ n.args, InRange E (vn a) := fun a _ => by
    rw [InRange, hv a, hw a]
    exact C01.spec_step_lt order hwf.consts hst hin a
  rw [emit_assign_eq_netFun E b st vn n e hw hmem hrange (hsel n hn) he]
  simp only [hv]
  exact ((C01.spec_consistent_exists_unique b st order _ htopo).1.1 n hn).symm

/-- the register block: with `rst` low every register takes its next value truncated to its width;
    with `rst` high it takes its reset value -/
theorem reg_block (r src : String) (rv : Nat) (hs : InRange E src) :
    (E.val "rst" % 2 ^ E.width "rst" = 0 →
      exec E (.ite (.id "rst") [.nba r none (.num none rv)] [.nba r none (.id src)])
        = [.reg r (E.val src % 2 ^ E.width r)]) ∧
    (E.val "rst" % 2 ^ E.width "rst" ≠ 0 →
      exec E (.ite (.id "rst") [.nba r none (.num none rv)] [.nba r none (.id src)])
        = [.reg r (rv % 2 ^ E.width r)]) := by
  -- `hs` is not needed: the source is cut to the register's width whatever it holds
  constructor
  · intro h
    simp only [exec, execs, eval, selfW, h, ne_eq, not_true_eq_false, ↓reduceIte, List.append_nil,
      assign_w E src, Spec.comb]
  · intro h
    simp only [exec, execs, eval, selfW, h, ne_eq, not_false_eq_true, ↓reduceIte, List.append_nil, assignVal,
      trunc_ctx]

/-- a memory write port: nothing when the enable is 0, else one word update at the addressed word -/
theorem mem_write (m we addr data : String) (hwe : InRange E we) (ha : InRange E addr) (hd : InRange E data) :
    exec E (.ite (.id we) [.nba m (some (.id addr)) (.id data)] [])
      = if E.val we = 0 then [] else [.mem m (E.val addr) (E.val data % 2 ^ E.memW m)] := by
  -- `hd` is not needed: the data is cut to the word width whatever it holds
  simp only [exec, execs, eval, selfW, Nat.mod_eq_of_lt hwe, Nat.mod_eq_of_lt ha, List.append_nil,
    assign_w E data, Spec.comb]
  by_cases h : E.val we = 0 <;> simp [h]

/-- non-vacuity: an 8-bit `a - b` into a 9-bit target wraps as PyRTL's `-` does -/
def exE : VEnv := { width := fun n => if n = "d" then 9 else 8, val := fun n => if n = "a" then 3 else 5,
                    memW := fun _ => 0, memV := fun _ _ => 0 }
example : assignVal exE 9 (.bin .sub (.id "a") (.id "b")) = 510 ∧ exE.val "a" < 2 ^ exE.width "a" := by decide

end Pyrtl.C05
