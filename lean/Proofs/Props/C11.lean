import Model.Pass.Copy
/-!
# C11 — copy_block and non-updating passes never disturb the source block

PARTIAL by nature: aliasing and identity of CPython objects are *observed* on every run by
tools/checks/c11.py (fingerprints, `id()` disjointness, working-block identity); the theorems say
what the code's cloning functions preserve (regenerated from transform.py / memory.py into
`Gen.Clone`) and what fresh allocation guarantees.
-/
namespace Pyrtl.C11
open Pyrtl.Copy Pyrtl.Gen.Clone

/-- `clone_wire` preserves class, bitwidth, constant value and register reset value (constants and
    registers have a branch of their own, which hands `val` / `reset_value` to the constructor). -/
theorem clone_wire_id (w : Wire) : cloneWire w = w := by
  obtain ⟨n, wd, k⟩ := w
  cases k <;> rfl

theorem copy_mem_id (m : Mem) : copyMem m = m := by
  obtain ⟨i, a, d, r, s⟩ := m
  cases r <;> rfl

/-- **The copy is isomorphic to its source** (every attribute the semantics reads). -/
theorem copy_iso (b : Block) : copyBlock b = b := by
  rw [copyBlock, funext clone_wire_id, funext copy_mem_id]
  simp

/-- hence behaviourally identical: the same run for every input sequence, order and initial maps. -/
theorem copy_run_eq (b : Block) (order : List Net) (regMap : Nat → Option Nat)
    (memMap : Nat → Nat → Option Nat) (dflt : Nat) (inps : List Env) :
    run (copyBlock b) order (initState (copyBlock b) regMap memMap dflt) inps
      = run b order (initState b regMap memMap dflt) inps := by
  rw [copy_iso]

theorem allocAll_spec (s : Store) (ws : List Wire) :
    (allocAll s ws).1.next = s.next + ws.length ∧ (allocAll s ws).2 = List.range' s.next ws.length := by
  induction ws generalizing s with
  | nil => exact ⟨rfl, rfl⟩
  | cons w ws ih =>
    obtain ⟨h1, h2⟩ := ih (alloc s w).1
    simp only [alloc] at h1 h2
    simp only [allocAll, alloc, h1, h2, List.length_cons, List.range'_succ, and_true]
    omega

theorem allocAll_next_le (s : Store) (ws : List Wire) : s.next ≤ (allocAll s ws).1.next := by
  rw [(allocAll_spec s ws).1]; omega

/-- **Frame**: allocating the copy leaves every object that existed before unchanged
    (`copyObjects s b` is `allocAll s ws` with `ws := b.wires.toList.map cloneWire`). -/
theorem copy_frame (s : Store) (ws : List Wire) : ∀ i, i < s.next → (allocAll s ws).1.obj i = s.obj i := by
  induction ws generalizing s with
  | nil => intro i _; rfl
  | cons w ws ih =>
    intro i hi
    simp only [allocAll]
    rw [ih (alloc s w).1 i (Nat.lt_succ_of_lt hi)]
    exact if_neg (Nat.ne_of_lt hi)

/-- **Freshness**: every object of the copy has an id the store had never used, so the result
    shares no wire object with the source, provided the source's objects have ids below `s.next`. -/
theorem copy_fresh (s : Store) (ws : List Wire) : ∀ i ∈ (allocAll s ws).2, s.next ≤ i := by
  rw [(allocAll_spec s ws).2]
  exact fun i hi => (List.mem_range'_1.1 hi).1

-- non-vacuity: a register with a reset value survives cloning
example : cloneWire ⟨"r", 4, .reg (some 5)⟩ = ⟨"r", 4, .reg (some 5)⟩ := rfl

end Pyrtl.C11
