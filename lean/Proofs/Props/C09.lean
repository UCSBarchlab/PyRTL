import Model.Pass.Lower
import Proofs.Lemmas.Rewrite
import Proofs.Lemmas.LowerStruct
import Proofs.Lemmas.Dco
import Proofs.Lemmas.LowerTopo
import Proofs.Lemmas.Alias
/-!
# C09 — lowering / restructuring passes preserve behaviour and meet their postconditions

The gate rewrite rules are regenerated from passes.py by every check run (`Gen.GateRules`).
-/
namespace Pyrtl.C09
open Pyrtl.Lower Pyrtl.Gen.GateRules

/-- `nand_synth`: every rewrite computes the gate it replaces. -/
theorem nand_rules_sound : ∀ a b : Bool,
    nand_rule_and a b = (a && b) ∧ nand_rule_or a b = (a || b) ∧ nand_rule_xor a b = xor a b := by
  decide

/-- `and_inverter_synth`: every rewrite computes the gate it replaces (false of the tree as first given,
    where XOR was rewritten to NOR; repaired by the `fix:` commit 829d086). -/
theorem aig_rules_sound : ∀ a b : Bool,
    aig_rule_or a b = (a || b) ∧ aig_rule_xor a b = xor a b ∧ aig_rule_nand a b = !(a && b) := by
  decide

/-- Each gate-basis pass rewrites or keeps **every** op a post-synthesis block may contain, and what
    it keeps is inside its target basis: NAND/NOT resp. AND/NOT plus structure. -/
theorem gate_basis_tables :
    (∀ op ∈ ["and", "or", "xor", "nand", "inv", "w", "reg", "concat", "select", "mread", "mwrite"],
        op ∈ nand_keeps ∨ op ∈ nand_rewrites) ∧
    (∀ op ∈ ["and", "or", "xor", "nand", "inv", "w", "reg", "concat", "select", "mread", "mwrite"],
        op ∈ aig_keeps ∨ op ∈ aig_rewrites) ∧
    (∀ op ∈ nand_keeps, op ∉ ["and", "or", "xor"]) ∧
    (∀ op ∈ aig_keeps, op ∉ ["or", "xor", "nand"]) := by
  decide

/-- **`two_way_concat`**: the chain of 2-operand concats carries, at every width, exactly the value
    and the width of the n-operand concat it replaces (first operand most significant). -/
theorem two_way_concat_preserves (l : List (Nat × Nat)) (hr : ∀ p ∈ l, p.2 < 2 ^ p.1) :
    twoWay l = ((l.map (·.1)).sum, Spec.comb .concat l (l.map (·.1)).sum) := by
  cases l with
  | nil => rfl
  | cons p rest =>
    -- `hr` is needed for the first operand only: every link of the chain reduces modulo its width
    show rest.foldl LowerNet.catStep p = _
    rw [LowerNet.chain_eq p.2 (Nat.mod_eq_of_lt (hr p List.mem_cons_self)).symm]
    simp only [List.map_cons, List.sum_cons, Spec.comb, Spec.concatVal, Nat.zero_mul, Nat.zero_add]

theorem concat_bits (idx : List Nat) (a acc : Nat) :
    Spec.concatVal (idx.map fun i => (1, Spec.bit a i)) acc
      = acc * 2 ^ idx.length + Spec.selectVal idx.reverse a :=
  LowerNet.concatVal_bits idx a acc

/-- **`one_bit_selects`**: concatenating the single-bit selects (in `concat_list` order) gives the
    arbitrary select it replaces: repeats, reversals and strides included. -/
theorem one_bit_selects_preserves (idx : List Nat) (a : Nat) :
    Spec.comb .concat (oneBitSelects idx a) idx.length = Spec.comb (.select idx) [(0, a)] idx.length :=
  LowerNet.concat_selBits idx a

theorem makeTree_leaves (fuel n : Nat) (h : n ≤ fuel) (hn : 1 ≤ n) : (makeTree fuel n).leaves = n := by
  induction fuel generalizing n with
  | zero => omega
  | succ f ih =>
    simp only [makeTree]
    split
    · rename_i hle
      exact Nat.le_antisymm hn hle
    · obtain ⟨h1, h2⟩ : 1 ≤ n / 2 ∧ n / 2 < n := by omega
      -- nothing else about `n / 2` is used, and `omega` is slow on the division
      generalize n / 2 = k at h1 h2 ⊢
      rw [Tree.leaves, ih k (by omega) h1, ih (n - k) (by omega) (Nat.sub_pos_of_lt h2)]
      exact Nat.add_sub_of_le h2.le

theorem leafVals_all (t : Tree) (v : Nat) : ∀ x ∈ t.leafVals v, x = v := by
  induction t with
  | leaf => exact List.forall_mem_singleton.mpr rfl
  | node l r ihl ihr => exact List.forall_mem_append.mpr ⟨ihl, ihr⟩

/-- **`two_way_fanout`**: the tree built for a wire of fan-out `n` has exactly `n` leaves (one per
    reading argument position), and every leaf carries the wire's value.  (That every tree wire feeds at most two
    nets is not part of the statement: it holds by the type, a `node` has exactly two children.) -/
theorem two_way_fanout_tree (n v : Nat) (hn : 1 ≤ n) :
    (makeTree n n).leaves = n ∧ ∀ x ∈ (makeTree n n).leafVals v, x = v :=
  ⟨makeTree_leaves n n (Nat.le_refl n) hn, leafVals_all _ v⟩

/-- **`direct_connect_outputs`**: retargeting the producer of `x` at the Output `o` (width
    `wo ≤ wx`) gives `o` what the removed `w` net gave it: truncating twice is truncating once. -/
theorem direct_connect_w (v wx wo : Nat) (h : wo ≤ wx) :
    Spec.comb .w [(wx, v % 2 ^ wx)] wo = v % 2 ^ wo := by
  simp only [Spec.comb]
  exact mod_mod_le h

example : (makeTree 5 5).leaves = 5 := by decide
example : twoWay [(2, 3), (1, 0), (3, 5)] = (6, 53) := by decide

open Rewrite

/-- one net in one schedule: a gadget over fresh wires that recomputes the net's value may replace it anywhere.  A
    `net_transform` pass as a whole, every net at once and for every run, is `nand_synth_run_eq` and its three likes
    below. -/
theorem local_rewrite_preserves (f : Net → List Nat → Nat) (F : Nat → Prop) (pre post gadget : List Net)
    (n : Net) (e : Env) (hnF : ¬ F n.dest)
    (hg : ∀ e' : Env, (∀ w, ¬ F w → w ≠ n.dest → evalSeq f gadget e' w = e' w) ∧
                      evalSeq f gadget e' n.dest = f n (n.args.map e'))
    (hpost : ∀ m ∈ post, ∀ a ∈ m.args, ¬ F a) :
    ∀ w, ¬ F w → evalSeq f (pre ++ gadget ++ post) e w = evalSeq f (pre ++ n :: post) e w :=
  rewrite_preserves hg hpost

/-- **`nand_synth`, one AND net in one schedule**: replacing `d = a & c` (any width) by `t = a nand c; d = ~t` over a
    fresh wire `t` of the same width leaves every other wire, in particular every Output and every register input, with
    the value it had.  The pass as a whole is `nand_synth_run_eq`. -/
theorem nand_synth_and_netlist (b : Block) (st : State) (pre post : List Net) (a c t d : Nat) (e : Env)
    (hw : b.width t = b.width d) (htd : t ≠ d)
    (hpost : ∀ m ∈ post, ∀ x ∈ m.args, x ≠ t) :
    ∀ w, w ≠ t →
      evalSeq (netFun b st) (pre ++ [⟨.nand, [a, c], [t]⟩, ⟨.inv, [t], [d]⟩] ++ post) e w
        = evalSeq (netFun b st) (pre ++ ⟨.and, [a, c], [d]⟩ :: post) e w := by
  refine rewrite_preserves (fun e' => ⟨fun w hwt hwd => ?_, ?_⟩) hpost
  · simp only [evalSeq, Net.dest, List.headD_cons] at hwd ⊢
    rw [upd_ne hwd, upd_ne hwt]
  · simp only [evalSeq, netFun, Net.dest, List.headD_cons, List.map_cons, List.map_nil, List.zip_cons_cons,
      List.zip_nil_right, Spec.comb, upd_eq, hw]
    exact LowerNet.gate_and _ _ _

/-! The four `net_transform` passes on whole netlists, for every run.
`LowerNet.lowerBlock rule b` is the block after the pass (every net kept or replaced by its gadget over fresh
temporaries, `Model/Pass/LowerNet.lean`; compared with the real pass output, up to the names of the temporaries, by
every check run).  `wfB` is the executable well-formedness the passes assume (wires of the block, one combinational
driver per wire, `sanity_check_net`'s destination-width rule).  `AgreeRuns size` relates two traces that have the
same number of cycles and agree, in every cycle, on every wire of the original block: Inputs, Outputs, registers
and all internal wires. -/
open LowerNet

/-- **`nand_synth` preserves every run**: any well-formed block (any widths), any schedule of its nets, any
    initial register/memory state, any input history of any length. -/
theorem nand_synth_run_eq (b : Block) (hwf : wfB bitPreB b = true) (order : List Net)
    (hord : ∀ n ∈ order, n ∈ b.nets) (st : State) (inps : List Env) :
    AgreeRuns b.wires.size (run (lowerBlock nandRule b) (lowerOrder nandRule b order) st inps)
      (run b order st inps) :=
  lower_run_preserves nandRule BitPre nand_sound b (wfB_bit hwf) order hord st inps

/-- **`and_inverter_synth` preserves every run** -/
theorem and_inverter_synth_run_eq (b : Block) (hwf : wfB bitPreB b = true) (order : List Net)
    (hord : ∀ n ∈ order, n ∈ b.nets) (st : State) (inps : List Env) :
    AgreeRuns b.wires.size (run (lowerBlock aigRule b) (lowerOrder aigRule b order) st inps)
      (run b order st inps) :=
  lower_run_preserves aigRule BitPre aig_sound b (wfB_bit hwf) order hord st inps

/-- **`two_way_concat` preserves every run** (operand values need not even be in range: the chain of
    two-operand concats is congruent to the n-operand concat modulo its width) -/
theorem two_way_concat_run_eq (b : Block) (hwf : wfB structPreB b = true) (order : List Net)
    (hord : ∀ n ∈ order, n ∈ b.nets) (st : State) (inps : List Env) :
    AgreeRuns b.wires.size (run (lowerBlock twoWayRule b) (lowerOrder twoWayRule b order) st inps)
      (run b order st inps) :=
  lower_run_preserves twoWayRule StructPre twoWay_sound b (wfB_struct hwf) order hord st inps

/-- **`one_bit_selects` preserves every run** (every index tuple: strides, reversals, repeats) -/
theorem one_bit_selects_run_eq (b : Block) (hwf : wfB structPreB b = true) (order : List Net)
    (hord : ∀ n ∈ order, n ∈ b.nets) (st : State) (inps : List Env) :
    AgreeRuns b.wires.size (run (lowerBlock oneBitRule b) (lowerOrder oneBitRule b order) st inps)
      (run b order st inps) :=
  lower_run_preserves oneBitRule StructPre oneBit_sound b (wfB_struct hwf) order hord st inps

/-- the architectural state (registers and memories) after every cycle is *equal*, not just the wire values -/
theorem lowering_state_eq (r : Rule) (Pre : Block → Net → Prop) (hr : RuleSound r Pre) (b : Block) (hwf : WF Pre b)
    (order : List Net) (hord : ∀ n ∈ order, n ∈ b.nets) (st : State) (inp : Env) :
    (step (lowerBlock r b) (lowerOrder r b order) st inp).2 = (step b order st inp).2 :=
  (step_preserves (lower_stepHyp hr hwf hord) st inp).2

/-- **`nand_synth` postcondition**: if every `&`, `|`, `^` net has two operands (`sanity_check_net`), no such
    net is left. -/
theorem nand_synth_post (b : Block)
    (harity : ∀ n ∈ b.nets, (n.op = .and ∨ n.op = .or ∨ n.op = .xor) → ∃ a c, n.args = [a, c]) :
    ∀ m ∈ (lowerBlock nandRule b).nets, m.op ≠ .and ∧ m.op ≠ .or ∧ m.op ≠ .xor := by
  refine lower_nets_forall (fun m hn hr => ?_) fun n g hr m hmg => ?_
  · -- on a kept net of one of these ops the rule would have fired
    have key : ¬ (m.op = .and ∨ m.op = .or ∨ m.op = .xor) := fun hop => by
      obtain ⟨a, c, hargs⟩ := harity m hn hop
      rcases hop with h | h | h <;> simp [nandRule, h, hargs] at hr
    simpa only [not_or] using key
  · rcases nandRule_ops hr m hmg with h | h | h <;> simp [h]

/-- **`and_inverter_synth` postcondition**: no `|`, `^` or `nand` net is left. -/
theorem and_inverter_synth_post (b : Block)
    (harity : ∀ n ∈ b.nets, (n.op = .or ∨ n.op = .xor ∨ n.op = .nand) → ∃ a c, n.args = [a, c]) :
    ∀ m ∈ (lowerBlock aigRule b).nets, m.op ≠ .or ∧ m.op ≠ .xor ∧ m.op ≠ .nand := by
  refine lower_nets_forall (fun m hn hr => ?_) fun n g hr m hmg => ?_
  · have key : ¬ (m.op = .or ∨ m.op = .xor ∨ m.op = .nand) := fun hop => by
      obtain ⟨a, c, hargs⟩ := harity m hn hop
      rcases hop with h | h | h <;> simp [aigRule, h, hargs] at hr
    simpa only [not_or] using key
  · rcases aigRule_ops hr m hmg with h | h | h <;> simp [h]

/-- **`two_way_concat` postcondition**: every concat left has at most two operands. -/
theorem two_way_concat_post (b : Block) :
    ∀ m ∈ (lowerBlock twoWayRule b).nets, m.op = .concat → m.args.length ≤ 2 := by
  refine lower_nets_forall (fun m _ hr hop => ?_) fun n g hr m hmg hop => ?_
  · match hargs : m.args with
    | [] | [_] | [_, _] => simp
    | a0 :: a1 :: a2 :: rest => simp [twoWayRule, hop, hargs] at hr
  · rcases twoWayRule_ops hr m hmg with h | h
    · exact Nat.le_of_eq h.2
    · cases h.symm.trans hop

/-- **`one_bit_selects` postcondition**: every select left (with one operand, `sanity_check_net`) takes at
    most one bit. -/
theorem one_bit_selects_post (b : Block)
    (harity : ∀ n ∈ b.nets, ∀ idx, n.op = .select idx → ∃ a, n.args = [a]) :
    ∀ m ∈ (lowerBlock oneBitRule b).nets, ∀ idx, m.op = .select idx → idx.length ≤ 1 := by
  refine lower_nets_forall (fun m hn hr idx hop => ?_) fun n g hr m hmg idx hop => ?_
  · obtain ⟨a, hargs⟩ := harity m hn idx hop
    match idx, hop with
    | [], _ => simp
    | [i], hop => simp [oneBitRule, hop, hargs] at hr
    | i :: j :: rest, hop => simp [oneBitRule, hop, hargs] at hr
  · rcases oneBitRule_ops hr m hmg with ⟨i, h⟩ | h | h <;> cases h.symm.trans hop
    exact Nat.le_refl 1

/-! non-vacuity: a concrete well-formed block the theorems apply to, and the passes really rewrite it -/

def exBlock : Block :=
  { wires := #[⟨"a", 3, .input⟩, ⟨"c", 3, .input⟩, ⟨"x", 3, .plain⟩, ⟨"o", 2, .output⟩, ⟨"k", 9, .plain⟩,
               ⟨"s", 3, .plain⟩]
    nets := [⟨.xor, [0, 1], [2]⟩, ⟨.or, [2, 0], [3]⟩, ⟨.concat, [0, 1, 2], [4]⟩, ⟨.select [2, 0, 2], [4], [5]⟩]
    mems := [] }

example : wfB bitPreB exBlock = true ∧ wfB structPreB exBlock = true := by decide
example : (lowerBlock nandRule exBlock).nets.length = 11 ∧ (lowerBlock twoWayRule exBlock).nets.length = 6 ∧
    (lowerBlock oneBitRule exBlock).nets.length = 8 := by decide

/-- **the lowered schedule is a dependency order of the lowered nets** for each of the four passes (every temporary is
    written before it is read and exactly once; the temporaries of different gadgets are disjoint) -/
theorem lowered_schedule_is_dependency_order (b : Block) (order : List Net)
    (hmem : ∀ n ∈ order, n ∈ b.nets) (hold : ∀ n ∈ order, NetOld b n) (hto : Topo order order []) :
    Topo (lowerOrder nandRule b order) (lowerOrder nandRule b order) [] ∧
    Topo (lowerOrder aigRule b order) (lowerOrder aigRule b order) [] ∧
    Topo (lowerOrder twoWayRule b order) (lowerOrder twoWayRule b order) [] ∧
    Topo (lowerOrder oneBitRule b order) (lowerOrder oneBitRule b order) [] :=
  ⟨lowerOrder_topo nand_shape hmem hold hto, lowerOrder_topo aig_shape hmem hold hto,
   lowerOrder_topo twoWay_shape hmem hold hto, lowerOrder_topo oneBit_shape hmem hold hto⟩

/-- **under any dependency order** `order'` of the lowered nets (whatever order a simulator of the lowered block
    picks) and any dependency order `order` of the original nets: the four passes preserve every run -/
theorem net_transform_passes_run_eq_any_order (b : Block) (order order' : List Net)
    (hord : ∀ n ∈ order, n ∈ b.nets) (hto : Topo order order []) (hto' : Topo order' order' [])
    (st : State) (inps : List Env) :
    (wfB bitPreB b = true → (∀ n, n ∈ order' ↔ n ∈ lowerOrder nandRule b order) →
      AgreeRuns b.wires.size (run (lowerBlock nandRule b) order' st inps) (run b order st inps)) ∧
    (wfB bitPreB b = true → (∀ n, n ∈ order' ↔ n ∈ lowerOrder aigRule b order) →
      AgreeRuns b.wires.size (run (lowerBlock aigRule b) order' st inps) (run b order st inps)) ∧
    (wfB structPreB b = true → (∀ n, n ∈ order' ↔ n ∈ lowerOrder twoWayRule b order) →
      AgreeRuns b.wires.size (run (lowerBlock twoWayRule b) order' st inps) (run b order st inps)) ∧
    (wfB structPreB b = true → (∀ n, n ∈ order' ↔ n ∈ lowerOrder oneBitRule b order) →
      AgreeRuns b.wires.size (run (lowerBlock oneBitRule b) order' st inps) (run b order st inps)) :=
  ⟨fun hwf hp => lower_run_preserves_any_order nand_sound nand_shape (wfB_bit hwf) hord hto hp hto' st inps,
   fun hwf hp => lower_run_preserves_any_order aig_sound aig_shape (wfB_bit hwf) hord hto hp hto' st inps,
   fun hwf hp => lower_run_preserves_any_order twoWay_sound twoWay_shape (wfB_struct hwf) hord hto hp hto' st inps,
   fun hwf hp => lower_run_preserves_any_order oneBit_sound oneBit_shape (wfB_struct hwf) hord hto hp hto' st inps⟩

/-! `direct_connect_outputs` on whole netlists, for every run.
`Dco.directConnectOutputs b` is the block after the pass (rounds of retargeting the producer of `x` at the Output `o`
and dropping the net `o <-- w -- x`, until nothing changes; `Model/Pass/Dco.lean`, compared net by net with the real
pass output by every check run).  `Dco.chainOkB` is the executable side condition: every block the pass goes through
passes the structural checks of `sanity_check` used by the proof and its scheduler order is a dependency order of
its combinational nets (evaluated by the driver on every tested block). -/
open Dco in
/-- **`direct_connect_outputs` preserves every Output in every cycle of every run**, from any initial state, under
    the scheduler's dependency orders (by `C01.spec_order_independent` any other dependency order gives the same
    values).  The key fact is that truncating a primitive's documented result to a narrower destination is the primitive
    at that width (`Dco.comb_trunc`, all 15 primitives incl. subtraction and inversion). -/
theorem direct_connect_outputs_run_eq (b : Block) (h : chainOkB (b.nets.length + 1) b = true)
    (st : State) (inps : List Env) :
    AgreeOn (fun x => b.kind x = .output)
      (run (directConnectOutputs b) (orderOf (directConnectOutputs b)) st inps) (run b (orderOf b) st inps) :=
  dco_run h st inps

open Dco in
/-- **`direct_connect_outputs` postcondition**: no net's destination is read only by a `w` net into an Output. -/
theorem direct_connect_outputs_post (b : Block) :
    ∀ p ∈ (directConnectOutputs b).nets, outW? (directConnectOutputs b) p = none :=
  dco_post b

/-- non-vacuity: a chain `a & c -> x -> w -> t -> w -> o` needs two rounds and ends as `o = a & c` -/
def exDco : Block :=
  { wires := #[⟨"a", 3, .input⟩, ⟨"c", 3, .input⟩, ⟨"x", 3, .plain⟩, ⟨"t", 3, .plain⟩, ⟨"o", 2, .output⟩]
    nets := [⟨.and, [0, 1], [2]⟩, ⟨.w, [2], [3]⟩, ⟨.w, [3], [4]⟩]
    mems := [] }

example : Dco.chainOkB (exDco.nets.length + 1) exDco = true ∧
    (Dco.directConnectOutputs exDco).nets = [⟨.and, [0, 1], [4]⟩] := by decide

/-! `two_way_fanout`, read backwards.
The pass inserts trees of `w` nets (`_make_tree`) and points the readers of a wire at the leaves.  Removing those `w`
nets again — each leaf replaced by the wire at the root of its tree — is an alias elimination in the sense of
`Model/Pass/Alias.lean` whose result is the block the pass started from.  So with `b'` the block *after* the pass and `c`
the certificate "remove the inserted `w` nets" (derived from the real pass output, checked by `Alias.schedsOkB`, and
`Alias.applyCert b' c` compared net for net with the block *before* the pass by every check run): -/

/-- **`two_way_fanout` preserves every Output in every cycle of every run**: the block before the pass
    (`= Alias.applyCert b' c`) and the block after it (`b'`) agree on every Output, from every initial state whose run
    is in range. -/
theorem two_way_fanout_run_eq (b' : Block) (c : Alias.Cert) (h : Alias.schedsOkB b' c = true) (st : State)
    (inps : List Env) (hrange : Alias.RangeRun b' (Dco.orderOf b') st inps) :
    Dco.AgreeOn (fun x => b'.kind x = .output)
      (run (Alias.applyCert b' c) (Dco.orderOf (Alias.applyCert b' c)) st inps) (run b' (Dco.orderOf b') st inps) := by
  obtain ⟨hs, hout⟩ := Alias.schedsOkB_sound h
  exact (Alias.alias_run hs hrange).mono hout

end Pyrtl.C09
