import Mathlib.Tactic.NormNum  -- no `norm_num` below: the statements of this file read `2 ^ n` through Mathlib's instance
import Model.Lib.MatrixIndex
import Proofs.Lemmas.SpecVal
/-!
# C19 — rtllib Matrix: index arithmetic and width sufficiency

PARTIAL: the element-wise/reduction operations themselves are compared with integer-matrix
arithmetic on every run (tools/checks/c19.py); the theorems settle, for all shapes and widths, the
parts that are arithmetic on indices and bitwidths: where an element sits in the flattened
WireVector, the C/F-order index maps of reshape/flatten, that the declared result widths of
`+`, `*` and `@` hold the exact value, and which cell an integer index addresses in an element access
`m[k, j] = v` (`Model/Lib/MatrixIndex`).
-/
namespace Pyrtl.C19

/-- **Layout**: `Matrix(value=wirevector)` puts the slice starting at `(j + i*columns)*bits` into
    element `[rows-1-i][columns-1-j]`; `to_wirevector` concatenates row-major, first element most
    significant, which gives element `(I, J)` the bit offset `(rows*columns - 1 - (I*columns+J))*bits`.
    The theorem is the arithmetic identity between the two offsets (in units of `bits`); that the code
    uses these offsets is checked by tools/checks/c19.py. -/
theorem to_from_wirevector_offset (rows cols I J : Nat) (hI : I < rows) (hJ : J < cols) :
    (cols - 1 - J) + (rows - 1 - I) * cols = rows * cols - 1 - (I * cols + J) := by
  obtain ⟨r, rfl⟩ := Nat.exists_eq_add_of_lt hI
  rw [Nat.add_sub_cancel, Nat.add_sub_cancel_left, Nat.add_mul, Nat.add_mul, Nat.one_mul]
  omega

/-- **C-order (row-major) flat index**: `k = i*columns + j` is a bijection with inverse
    `(k / columns, k % columns)` — used by `flatten`, `reshape`, `put`. -/
theorem c_order_index (cols i j : Nat) (hj : j < cols) :
    (i * cols + j) / cols = i ∧ (i * cols + j) % cols = j :=
  (Nat.div_mod_unique (by omega)).mpr ⟨by rw [Nat.mul_comm, Nat.add_comm], hj⟩

theorem c_order_index_inv (cols k : Nat) (hc : 0 < cols) :
    (k / cols) * cols + k % cols = k ∧ k % cols < cols :=
  ⟨Nat.div_add_mod' k cols, Nat.mod_lt k hc⟩

/-- **F-order (column-major) flat index**: `k = j*rows + i` with inverse `(k % rows, k / rows)`. -/
theorem f_order_index (rows i j : Nat) (hi : i < rows) :
    (j * rows + i) % rows = i ∧ (j * rows + i) / rows = j :=
  (c_order_index rows j i hi).symm

/-- a reshape keeps the flat position: element `(i, j)` of an `r×c` matrix goes to `(k / c', k % c')`
    with `k = i*c + j`, which lies inside the `r'×c'` result when `r*c = r'*c'` (that positions and flat
    indices correspond one to one is `c_order_index` and `c_order_index_inv`). -/
theorem reshape_in_range (r c r' c' i j : Nat) (hi : i < r) (hj : j < c) (h : r * c = r' * c') (hc' : 0 < c') :
    (i * c + j) / c' < r' ∧ (i * c + j) % c' < c' := by
  have hk : i * c + j < r * c := Nat.mul_comm c i ▸ Nat.mul_add_lt_mul_of_lt_of_lt hi hj
  constructor
  · rw [Nat.div_lt_iff_lt_mul hc', ← h]; exact hk
  · exact Nat.mod_lt _ hc'

/-- **`+`: `max(bits)+1` bits hold the exact element sum.** -/
theorem width_exact_add (ba bb a b : Nat) (ha : a < 2 ^ ba) (hb : b < 2 ^ bb) :
    a + b < 2 ^ (max ba bb + 1) :=
  add_lt_two_pow_max ha hb

/-- **element-wise / scalar `*`: `bits_a + bits_b` bits hold the exact product.** -/
theorem width_exact_mul (ba bb a b : Nat) (ha : a < 2 ^ ba) (hb : b < 2 ^ bb) :
    a * b < 2 ^ (ba + bb) :=
  mul_lt_two_pow ha hb

/-- **`@`: a sum of `n` products of `ba`- and `bb`-bit values fits `n*n*(ba+bb)` bits** (the width
    `__matmul__` declares, with `n = self.columns = other.rows`), for every `n ≥ 1`. -/
theorem width_exact_matmul (n ba bb : Nat) (hn : 1 ≤ n) (hbits : 1 ≤ ba + bb) (terms : List Nat)
    (hlen : terms.length = n) (hterm : ∀ t ∈ terms, t < 2 ^ (ba + bb)) :
    terms.sum < 2 ^ (n * n * (ba + bb)) := by
  obtain ⟨m, rfl⟩ := Nat.exists_eq_add_of_le' hn
  generalize ba + bb = B at *
  calc terms.sum
      < 2 ^ (m + B) := sum_lt_two_pow hterm (hlen ▸ Nat.lt_two_pow_self)
    _ ≤ 2 ^ ((m + 1) * (m + 1) * B) := Nat.pow_le_pow_right (by decide) <|
      calc m + B ≤ m * B + B := Nat.add_le_add_right (Nat.le_mul_of_pos_right m hbits) B
        _ = (m + 1) * B := (Nat.succ_mul m B).symm
        _ ≤ (m + 1) * (m + 1) * B := Nat.mul_le_mul_right B (Nat.le_mul_of_pos_left _ (Nat.succ_pos m))

example : (1 * 3 + 2) / 3 = 1 ∧ (1 * 3 + 2) % 3 = 2 := by decide

open Pyrtl.MatrixIndex

theorem normBound_eq (n : Nat) (k : Int) : normBound n k = if k < 0 then k + n else k := by
  unfold normBound; split <;> omega

/-- the stop bound is one past the start bound for every index (`k = -1` is the case `normBound n (k + 1)`
    would get wrong: see `cellSliceOld`) -/
theorem stop_eq (n : Nat) (k : Int) :
    (if k = -1 then (n : Int) else normBound n (k + 1)) = normBound n k + 1 := by
  unfold normBound
  omega

theorem checked_succ (n : Nat) (s : Int) :
    checked n s (s + 1) = if 0 ≤ s ∧ s < n then some (s, s + 1) else none := by
  unfold checked
  by_cases h : 0 ≤ s ∧ s < n
  · rw [if_neg (by omega), if_pos h]
  · rw [if_pos (by omega), if_neg h]

theorem cellSlice_eq (n : Nat) (k : Int) : cellSlice n k =
    if 0 ≤ normBound n k ∧ normBound n k < n then some (normBound n k, normBound n k + 1) else none := by
  rw [cellSlice, stop_eq, checked_succ]

/-- every index `-n ≤ k < n` addresses exactly one cell, the `k`-th (from the end when negative) -/
theorem cell_slice_single (n : Nat) (k : Int) (h1 : -(n : Int) ≤ k) (h2 : k < n) :
    cellSlice n k = some (if k < 0 then k + n else k, (if k < 0 then k + n else k) + 1) := by
  rw [cellSlice_eq, normBound_eq, if_pos (by omega)]

theorem cell_slice_refused (n : Nat) (k : Int) (h : k < -(n : Int) ∨ (n : Int) ≤ k) : cellSlice n k = none := by
  rw [cellSlice_eq, normBound_eq, if_neg (by omega)]

/-- the defect repaired in 7a54e23: before it, the index -1 gave the empty slice `n-1 : 0` on every axis -/
theorem old_cell_slice_minus_one_empty (n : Nat) (hn : 1 ≤ n) : cellSliceOld n (-1) = some ((n : Int) - 1, 0) := by
  rw [cellSliceOld, normBound_eq, normBound_eq, if_pos (by decide), if_neg (by decide), checked, if_neg (by omega),
    Int.add_comm, ← Int.sub_eq_add_neg]
  rfl

example : cellSlice 4 (-1) = some (3, 4) ∧ cellSlice 4 (-4) = some (0, 1) ∧ cellSlice 4 4 = none ∧ cellSlice 4 (-5) = none := by
  decide

end Pyrtl.C19
