import Model.Lib.Ops
import Proofs.Lemmas.Barrel
import Proofs.Lemmas.Signed
/-!
# C06 — hardware operators compute exact integer results at the documented widths

`Ops.*` compose the primitive nets exactly as wire.py / corecircuits.py do; `Barrel.*` is the
barrel shifter the wire-amount shifts are built from.  The real operator netlists are compared with
these functions by every check run (tools/checks/c06.py).
-/
namespace Pyrtl.C06
open Pyrtl.Ops

/-- **Zero extension keeps the value** (any target width ≥ the wire's). -/
theorem zero_extend_value (w a n : Nat) (ha : a < 2 ^ w) (hn : w ≤ n) :
    zeroExtended (w, a) n = (n, a) := by
  simpa [zeroExtended] using extendWithBit_eq ha hn (Nat.zero_le _)

theorem match_bitwidth {wa a wb b : Nat} (ha : a < 2 ^ wa) (hb : b < 2 ^ wb) :
    zeroExtended (wa, a) (max wa wb) = (max wa wb, a) ∧ zeroExtended (wb, b) (max wa wb) = (max wa wb, b) ∧
    a < 2 ^ max wa wb ∧ b < 2 ^ max wa wb :=
  ⟨zero_extend_value wa a _ ha (Nat.le_max_left _ _), zero_extend_value wb b _ hb (Nat.le_max_right _ _),
    lt_two_pow_of_le ha (Nat.le_max_left _ _), lt_two_pow_of_le hb (Nat.le_max_right _ _)⟩

/-- `+` : result width `max+1`, exact sum. -/
theorem add_exact (wa a wb b : Nat) (ha : a < 2 ^ wa) (hb : b < 2 ^ wb) :
    twoVarOp .add (wa, a) (wb, b) = (max wa wb + 1, a + b) := by
  obtain ⟨ea, eb, -, -⟩ := match_bitwidth ha hb
  simp only [twoVarOp, ea, eb, Spec.comb]
  rw [Nat.mod_eq_of_lt (add_lt_two_pow_max ha hb)]

/-- `-` : result width `max+1`, the difference modulo `2^(max+1)` (two's-complement wrap). -/
theorem sub_wrap (wa a wb b : Nat) (ha : a < 2 ^ wa) (hb : b < 2 ^ wb) :
    twoVarOp .sub (wa, a) (wb, b)
      = (max wa wb + 1, (((a : Int) - (b : Int)) % ((2 ^ (max wa wb + 1) : Nat) : Int)).toNat) := by
  obtain ⟨ea, eb, h1, h2⟩ := match_bitwidth ha hb
  simp only [twoVarOp, ea, eb, Spec.comb]

/-- `*` : result width `2·max` (the sum of the matched operand widths), exact product. -/
theorem mul_exact (wa a wb b : Nat) (ha : a < 2 ^ wa) (hb : b < 2 ^ wb) :
    twoVarOp .mul (wa, a) (wb, b) = (max wa wb * 2, a * b) := by
  obtain ⟨ea, eb, h1, h2⟩ := match_bitwidth ha hb
  simp only [twoVarOp, ea, eb, Spec.comb]
  rw [Nat.mod_eq_of_lt (Nat.mul_two _ ▸ mul_lt_two_pow h1 h2)]

/-- unsigned comparisons: 1 bit, the truth value -/
theorem cmp_unsigned (wa a wb b : Nat) (ha : a < 2 ^ wa) (hb : b < 2 ^ wb) :
    twoVarOp .lt (wa, a) (wb, b) = (1, if a < b then 1 else 0) ∧
    twoVarOp .gt (wa, a) (wb, b) = (1, if a > b then 1 else 0) ∧
    twoVarOp .eq (wa, a) (wb, b) = (1, if a = b then 1 else 0) := by
  obtain ⟨ea, eb, h1, h2⟩ := match_bitwidth ha hb
  simp only [twoVarOp, ea, eb, Spec.comb]
  refine ⟨?_, ?_, ?_⟩ <;> split <;> rfl

/-- bitwise ops after zero-extension, width `max` -/
theorem bitwise_zero_ext (wa a wb b : Nat) (ha : a < 2 ^ wa) (hb : b < 2 ^ wb) :
    twoVarOp .and (wa, a) (wb, b) = (max wa wb, a &&& b) ∧
    twoVarOp .or (wa, a) (wb, b) = (max wa wb, a ||| b) ∧
    twoVarOp .xor (wa, a) (wb, b) = (max wa wb, a ^^^ b) := by
  obtain ⟨ea, eb, h1, h2⟩ := match_bitwidth ha hb
  simp only [twoVarOp, ea, eb, Spec.comb]
  refine ⟨?_, ?_, ?_⟩
  · rw [Nat.mod_eq_of_lt (Nat.lt_of_le_of_lt Nat.and_le_left h1)]
  · rw [Nat.mod_eq_of_lt (Nat.or_lt_two_pow h1 h2)]
  · rw [Nat.mod_eq_of_lt (Nat.xor_lt_two_pow h1 h2)]

/-- concat: the first argument is the most significant -/
theorem concat_msb_first (wa a wb b : Nat) (ha : a < 2 ^ wa) (hb : b < 2 ^ wb) :
    Spec.comb .concat [(wa, a), (wb, b)] (wa + wb) = a * 2 ^ wb + b := by
  rw [Spec.comb_concat (by simp [ha, hb]) (by simp)]
  simp [Spec.concatVal]

/-- slicing / indexing: bit `k` of the result is bit `idx[k]` of the operand, where `idx` is
    `range(width)[item]` (Python index semantics are CPython's own; PyRTL passes them to the `s` net) -/
theorem select_bits (idx : List Nat) (a k : Nat) (hk : k < idx.length) :
    Spec.bit (Spec.selectVal idx a) k = Spec.bit a (idx.getD k 0) := by
  have hb := Spec.bit_lt_two a idx[k]
  rw [Spec.bit, Spec.selectVal_div, List.drop_eq_getElem_cons hk, Spec.selectVal, ← List.getElem_eq_getD (h := hk) 0]
  omega

/-- **Shifts by a wire amount of any width**: the barrel shifter moves the data by the full amount in
    the chosen direction, filling with `bit_in` — for every data width, every shift-amount width
    (amounts ≥ the data width leave only fill bits). -/
theorem barrel_shift_eq (bits : List Bool) (bitIn dir : Bool) (sd : List Bool) (h : 0 < bits.length) :
    Barrel.barrelShifter bits bitIn dir sd = Barrel.shiftSpec bits bitIn dir (Barrel.dist sd) := by
  have := Barrel.loop_spec bits.length bitIn dir sd 0 bits rfl
  rwa [Nat.pow_zero, Nat.min_eq_left h, Nat.one_mul] at this

example : zeroExtended (3, 5) 8 = (8, 5) := by decide
example : Barrel.barrelShifter [true, false, true, true] false true [true, false, false]
    = [false, true, false, true] := by decide

/-- **Sign extension** (`sign_extended`, and `match_bitwidth(signed=True)`): the result is `n` bits
    wide, in range, and the same two's-complement integer. -/
theorem sign_extend_keeps_signed_value (w a n : Nat) (hw : 0 < w) (ha : a < 2 ^ w) (hn : w ≤ n) :
    (signExtended (w, a) n).1 = n ∧ (signExtended (w, a) n).2 < 2 ^ n ∧
    toSigned (signExtended (w, a) n) = toSigned (w, a) :=
  sign_extend_value w a n hw ha hn

theorem msb_sub {W x y : Nat} (hx : x < 2 ^ W) (hy : y < 2 ^ W) :
    msb (twoVarOp .sub (W, x) (W, y)) = if x < y then 1 else 0 := by
  have hr := emod_toNat_cast ((x : Int) - y) (W + 1)
  have hlt := emod_toNat_lt ((x : Int) - y) (W + 1)
  have hs : toSigned (W + 1, _) = (x : Int) - y :=
    toSigned_of_bmod (Nat.succ_pos W) hlt (by rw [Nat.pow_succ]; omega) (by rw [hr, Int.emod_bmod])
  rw [sub_wrap W x W y hx hy, Nat.max_self, msb_eq_ite_neg (Nat.succ_pos W) hlt, hs]
  exact if_congr (sub_neg.trans Int.ofNat_lt) rfl rfl

theorem signedLt_matched {W x y : Nat} (hW : 0 < W) (hx : x < 2 ^ W) (hy : y < 2 ^ W) :
    (msb (twoVarOp .sub (W, x) (W, y)) + (1 - msb (W, x)) + (1 - msb (W, y))) % 2
      = if toSigned (W, x) < toSigned (W, y) then 1 else 0 := by
  rw [msb_sub hx hy]
  rcases toSigned_cases hW hx with ⟨mx, ex, rx⟩ | ⟨mx, ex, rx⟩ <;>
    rcases toSigned_cases hW hy with ⟨my, ey, ry⟩ | ⟨my, ey, ry⟩ <;> rw [mx, my, ex, ey]
  -- equal sign bits: the unsigned order; different ones: the word with the sign bit set is the larger
  -- unsigned and the smaller signed
  · simp only [Int.ofNat_lt]; split <;> rfl
  · rw [if_pos (Nat.lt_of_mul_lt_mul_left (rx.trans_le ry)), if_neg (by omega)]
  · rw [if_neg (Nat.lt_of_mul_lt_mul_left (ry.trans_le rx)).not_gt, if_pos (by omega)]
  · simp only [Int.sub_lt_sub_right_iff, Int.ofNat_lt]; split <;> rfl

/-- **`signed_lt`** for operands of any two widths: sign-match, subtract at one more bit, and
    `r[-1] ^ ~a[-1] ^ ~b[-1]` is exactly `a <ₛ b` on the two's-complement values. -/
theorem signed_lt_correct (wa a wb b : Nat) (hwa : 0 < wa) (hwb : 0 < wb) (ha : a < 2 ^ wa) (hb : b < 2 ^ wb) :
    signedLt (wa, a) (wb, b) = if toSigned (wa, a) < toSigned (wb, b) then 1 else 0 := by
  obtain ⟨x, hx, hxlt, hxs⟩ := signExtended_spec hwa ha (Nat.le_max_left wa wb)
  obtain ⟨y, hy, hylt, hys⟩ := signExtended_spec hwb hb (Nat.le_max_right wa wb)
  rw [← hxs, ← hys]
  simp only [signedLt, hx, hy]
  exact signedLt_matched (lt_max_of_lt_left hwa) hxlt hylt

/-- **`signed_add`** for operands of any two widths: `max+1` result bits hold exactly the sum of the two
    two's-complement values (no overflow is possible at that width). -/
theorem signed_add_exact (wa a wb b : Nat) (hwa : 0 < wa) (hwb : 0 < wb) (ha : a < 2 ^ wa) (hb : b < 2 ^ wb) :
    (signedAdd (wa, a) (wb, b)).1 = max wa wb + 1 ∧
    toSigned (signedAdd (wa, a) (wb, b)) = toSigned (wa, a) + toSigned (wb, b) := by
  have hW : 0 < max wa wb := lt_max_of_lt_left hwa
  obtain ⟨x0, hx0, hx0lt, hx0s⟩ := signExtended_spec hwa ha (Nat.le_max_left wa wb)
  obtain ⟨y0, hy0, hy0lt, hy0s⟩ := signExtended_spec hwb hb (Nat.le_max_right wa wb)
  obtain ⟨x, hx, hxlt, hxs⟩ := signExtended_spec hW hx0lt (Nat.le_succ (max wa wb))
  obtain ⟨y, hy, hylt, hys⟩ := signExtended_spec hW hy0lt (Nat.le_succ (max wa wb))
  have rx := toSigned_range hW hx0lt
  have ry := toSigned_range hW hy0lt
  simp only [signedAdd, hx0, hy0, hx, hy, add_exact _ x _ y hxlt hylt, lowBits_eq]
  rw [← hx0s, ← hy0s]
  refine ⟨trivial, toSigned_mod (Nat.succ_pos _) ?_ ?_⟩
  · rw [Nat.pow_succ, Nat.mul_two, Nat.cast_add, Int.neg_add, Int.add_mul]
    exact ⟨Int.add_le_add rx.1 ry.1, Int.add_lt_add rx.2 ry.2⟩
  · rw [← hxs, ← hys, toSigned_eq_bmod (Nat.succ_pos _) hxlt, toSigned_eq_bmod (Nat.succ_pos _) hylt,
      Nat.cast_add, ← Int.add_bmod]

/-- **`signed_mult`** for operands of any two widths: `len(a)+len(b)` result bits hold exactly the product of
    the two two's-complement values. -/
theorem signed_mult_exact (wa a wb b : Nat) (hwa : 0 < wa) (hwb : 0 < wb) (ha : a < 2 ^ wa) (hb : b < 2 ^ wb) :
    (signedMult (wa, a) (wb, b)).1 = wa + wb ∧
    toSigned (signedMult (wa, a) (wb, b)) = toSigned (wa, a) * toSigned (wb, b) := by
  have hfl : 0 < wa + wb := Nat.add_pos_left hwa wb
  obtain ⟨x, hx, hxlt, hxs⟩ := signExtended_spec hwa ha (Nat.le_add_right wa wb)
  obtain ⟨y, hy, hylt, hys⟩ := signExtended_spec hwb hb (Nat.le_add_left wb wa)
  have hr := mul_range (toSigned_range hwa ha) (toSigned_range hwb hb)
  rw [← Int.natAbs_mul] at hr
  have hpos := Nat.two_pow_pos (wa + wb)
  simp only [signedMult, hx, hy, mul_exact _ x _ y hxlt hylt, lowBits_eq]
  refine ⟨trivial, toSigned_mod hfl (by omega) ?_⟩
  rw [← hxs, ← hys, toSigned_eq_bmod hfl hxlt, toSigned_eq_bmod hfl hylt, Nat.cast_mul, ← Int.mul_bmod]

-- -1 (1 bit) is not less than -1 (2 bits); -2 (2 bits) is less than 1 (3 bits)
example : signedLt (1, 1) (2, 3) = 0 ∧ signedLt (2, 2) (3, 1) = 1 := by decide

end Pyrtl.C06
