import Proofs.Lemmas.PySimOps
import Proofs.Lemmas.EvalOrder
import Proofs.Lemmas.Fast
import Proofs.Lemmas.FastRun
/-!
# C01 — `pyrtl.Simulation` computes the documented cycle semantics

`PySim` is the impl model of `simulation.py` (its per-op arithmetic is *regenerated from the source*
into `Model/Gen/SimpleFunc.lean` on every run); `Spec` is the documented op table.
-/
namespace Pyrtl.C01
open Pyrtl.PySim

def InRange (args : List (Nat × Nat)) : Prop := ∀ p ∈ args, p.2 < 2 ^ p.1

def castArgs (args : List (Nat × Nat)) : List (Nat × Int) := args.map fun p => (p.1, (p.2 : Int))

theorem zip_cast (ws vals : List Nat) : ws.zip (vals.map Int.ofNat) = castArgs (ws.zip vals) := by
  simp [castArgs, List.zip_map_right]

/-- **Per-net semantics, every op, all widths, all in-range values**: what `_execute` followed by
    `_sanitize` stores equals the documented integer function truncated to the destination width.
    (`~x & mask`, `(l - r) & mask` on a negative difference, the carry-out of `+`, mux polarity,
    `c` argument order and repeated / reversed `s` indices are all settled here.)  For an argument
    list of the wrong length both sides are 0 (such nets are rejected by `sanity_check`, C10). -/
theorem pysim_exec_eq_spec (op : Op) (args : List (Nat × Nat)) (dw : Nat) (hr : InRange args) :
    PySim.exec op (castArgs args) dw = Spec.comb op args dw := by
  -- `_sanitize` is `% 2^dw`; a Python function of casts is the cast of the `Nat` function, except `~`
  -- (`pyNot_emod_toNat`) and `-` (the table's own expression)
  rw [exec_eq]
  open Gen.SimpleFunc in
  cases op with
  | reg | mread | mwrite => rfl
  | concat =>
    have h : concatLoop (castArgs args) 0 = ((Spec.concatVal args 0 : Nat) : Int) := concatLoop_eq args 0 hr
    simp only [rawExec, Spec.comb, h, natCast_emod_toNat]
  | w | inv | select =>
    rcases args with _ | ⟨⟨_, a⟩, _ | _⟩
    · rfl
    · simp only [castArgs, List.map_cons, List.map_nil, rawExec, Spec.comb, f_w, f_inv, selectLoop_reverse,
        natCast_emod_toNat, pyNot_emod_toNat]
    · rfl
  | mux =>
    rcases args with _ | ⟨⟨_, s⟩, _ | ⟨⟨_, f⟩, _ | ⟨⟨_, t⟩, _ | _⟩⟩⟩
    · rfl
    · rfl
    · rfl
    · simp only [castArgs, List.map_cons, List.map_nil, rawExec, Spec.comb, f_mux, mux_nat, natCast_emod_toNat]
    · rfl
  | and | or | xor | nand | add | sub | mul | lt | gt | eq =>
    rcases args with _ | ⟨⟨_, a⟩, _ | ⟨⟨_, b⟩, _ | _⟩⟩
    · rfl
    · rfl
    · simp only [castArgs, List.map_cons, List.map_nil, rawExec, Spec.comb,
        f_and, f_or, f_xor, f_nand, f_add, f_sub, f_mul, f_lt, f_gt, f_eq,
        pyAnd_nat, pyOr_nat, pyXor_nat, ← Int.natCast_add, ← Int.natCast_mul, ofBool_nat, Int.ofNat_lt, GT.gt,
        Int.natCast_inj, natCast_emod_toNat, pyNot_emod_toNat]
    · rfl

/-- Every value `Simulation` stores for a net destination lies in `[0, 2^bitwidth)`. -/
theorem pysim_value_lt (op : Op) (args : List (Nat × Int)) (dw : Nat) :
    PySim.exec op args dw < 2 ^ dw := by
  rw [exec_eq]
  exact emod_toNat_lt _ _

/-- `_execute` of a whole net (memory reads included) equals the documented net function whenever
    the argument values fit the argument wires. -/
theorem pysim_netFun_eq_spec (b : Block) (st : State) (n : Net) (vals : List Nat)
    (hr : InRange ((n.args.map b.width).zip vals)) :
    PySim.netFun b st n vals = Pyrtl.netFun b st n vals := by
  unfold PySim.netFun Pyrtl.netFun
  cases hop : n.op with
  | mread m => exact san_nat
  | _ =>
    simp only [zip_cast]
    exact pysim_exec_eq_spec _ _ _ hr

/-- **Whichever way ties are broken**: `Simulation` evaluates `ordered_nets` in whatever dependency
    order `Block.__iter__` produced; any two dependency orders of the same nets give every wire the
    same value (so the traced values do not depend on set/dict iteration order). -/
theorem pysim_order_independent (b : Block) (st : State) (o1 o2 : List Net) (e : Env)
    (hp : ∀ n, n ∈ o1 ↔ n ∈ o2) (h1 : isTopo o1 = true) (h2 : isTopo o2 = true) :
    ∀ w, PySim.execNets b st o1 e w = PySim.execNets b st o2 e w :=
  eval_any_topo_order _ o1 o2 e hp (isTopo_sound o1 h1) (isTopo_sound o2 h2)

/-- The same for the specification evaluator. -/
theorem spec_order_independent (b : Block) (st : State) (o1 o2 : List Net) (e : Env)
    (hp : ∀ n, n ∈ o1 ↔ n ∈ o2) (h1 : isTopo o1 = true) (h2 : isTopo o2 = true) :
    ∀ w, evalNets b st o1 e w = evalNets b st o2 e w :=
  eval_any_topo_order _ o1 o2 e hp (isTopo_sound o1 h1) (isTopo_sound o2 h2)

/-- The value the specification evaluator computes is *the* consistent valuation (every net destination equals
    the documented function of its arguments), which exists and is unique for every netlist that has a
    dependency order. -/
theorem spec_consistent_exists_unique (b : Block) (st : State) (order : List Net) (e : Env)
    (h : isTopo order = true) :
    Consistent (Pyrtl.netFun b st) order e (evalNets b st order e) ∧
    ∀ v, Consistent (Pyrtl.netFun b st) order e v → ∀ w, v w = evalNets b st order e w :=
  ⟨evalSeq_consistent _ order e (isTopo_sound order h),
   fun _ hv => consistent_unique (isTopo_sound order h) hv
     (evalSeq_consistent _ order e (isTopo_sound order h))⟩

theorem pysim_nfOk (b : Block) (order : List Net) : FastRun.NfOk b order (PySim.netFun b) :=
  fun st n _ vals _ h => pysim_netFun_eq_spec b st n vals h

/-- **One cycle.**  From corresponding states and in-range inputs, `Simulation.step` gives every
    meaningful wire the documented value (which fits the wire) and leaves corresponding states: registers latch the truncated
    next-input, enabled write ports land, constants keep their value. -/
theorem pysim_step_eq_spec (b : Block) (order : List Net) (hwf : WF b order) (s : Sim) (st : State)
    (hinv : Inv b s st) (inp : Env) (hin : InputsOk b inp) :
    (∀ w, Good b order w →
        (PySim.step b order (writeNets b) s inp).1 w = (Pyrtl.step b order st inp).1 w ∧
        (Pyrtl.step b order st inp).1 w < 2 ^ b.width w) ∧
    Inv b (PySim.step b order (writeNets b) s inp).2 (Pyrtl.step b order st inp).2 :=
  -- `PySim.step` unfolds to `FastSim.stepWith (PySim.netFun b)` (`C02.pysim_step_is_stepWith`)
  FastRun.stepWith_eq_spec b order (PySim.netFun b) (pysim_nfOk b order) hwf s st hinv inp hin

theorem pysim_run_is_runWith (b : Block) (order wr : List Net) (s : Sim) (inps : List Env) :
    PySim.run b order wr s inps = FastSim.runWith (PySim.netFun b) b order wr s inps := by
  induction inps generalizing s with
  | nil => rfl
  | cons inp rest ih => exact congrArg _ (ih _)

/-- **Whole runs, any number of cycles.**  Started from corresponding states, `Simulation` stepped
    through any input sequence traces, in every cycle and for every meaningful wire, exactly the value
    of the documented cycle semantics: combinational functions of the current inputs and state,
    registers one cycle late and truncated, reads before writes, writes at the end of the cycle. -/
theorem pysim_run_eq_spec (b : Block) (order : List Net) (hwf : WF b order) :
    ∀ (inps : List Env) (s : Sim) (st : State), Inv b s st → (∀ inp ∈ inps, InputsOk b inp) →
      RunsAgree b order (PySim.run b order (writeNets b) s inps) (Pyrtl.run b order st inps) := by
  intro inps s st
  rw [pysim_run_is_runWith]
  exact FastRun.runWith_eq_spec b order _ (pysim_nfOk b order) hwf inps s st

/-- the simulator's initial object corresponds to the specification's initial state
    (`register_value_map`, else `reset_value`, else `default_value`; memories likewise) -/
theorem pysim_init_inv (b : Block) (regMap : Nat → Option Nat) (memMap : Nat → Nat → Option Nat) (dflt : Nat)
    (hr : ∀ r, isReg b r = true → (initState b regMap memMap dflt).regs r < 2 ^ b.width r) :
    Inv b (PySim.init b regMap memMap dflt) (initState b regMap memMap dflt) := by
  constructor
  · intro r; rfl
  · exact hr
  · rfl
  · intro c v hk
    simp only [PySim.init, hk]

/-- non-vacuity of `WF` (`Inv` is inhabited by `pysim_init_inv`): a 2-bit accumulator `r.next = (i + r)[..]` -/
def exB : Block :=
  ⟨#[⟨"i", 2, .input⟩, ⟨"r", 2, .reg none⟩, ⟨"t", 3, .plain⟩],
   [⟨.add, [0, 1], [2]⟩, ⟨.reg, [2], [1]⟩], []⟩

example : WF exB [⟨.add, [0, 1], [2]⟩] where
  sched := ⟨by
    intro a ha
    simp only [List.mem_cons, List.not_mem_nil, or_false] at ha
    rcases ha with rfl | rfl <;> exact Or.inr trivial, trivial⟩
  dests := by
    intro n hn
    simp only [List.mem_cons, List.not_mem_nil, or_false] at hn
    subst hn
    exact id
  consts := by
    intro c v hk
    rcases c with _ | _ | _ | c <;> cases hk
  regArg := by
    intro n hn hop
    simp only [exB, List.mem_cons, List.not_mem_nil, or_false] at hn
    rcases hn with rfl | rfl
    · cases hop
    · exact Or.inr (by simp [Net.dest])
  wrArgs := by
    intro n hn
    cases hn

/-- The hash-map evaluator the compiled driver runs computes exactly `evalSeq` (so correspondence
    runs exercise the function the theorems are about). -/
theorem driver_evaluator_refines (f : Net → List Nat → Nat) (base : Env) (ns : List Net) :
    Fast.look (Fast.evalSeq f base ns {}) base = evalSeq f ns base := by
  rw [Fast.evalSeq_look]
  congr 1
  funext x
  simp [Fast.look]

example : InRange [(3, 5), (2, 3)] := by
  intro p hp; simp at hp; rcases hp with rfl | rfl <;> decide

-- the witness that decides subtraction order and two's-complement wrap: 2 - 5 at width 4 is 13
example : PySim.exec .sub (castArgs [(3, 2), (3, 5)]) 4 = 13 := by decide

end Pyrtl.C01
