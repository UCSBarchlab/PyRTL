import Model.Lib.Muxes
import Proofs.Props.C06
/-!
# C14 — multiplexing and bit-manipulation helpers select exactly the documented bits
-/
namespace Pyrtl.C14
open Pyrtl.Muxes

theorem valMsb_lt (idx : List Bool) : valMsb idx < 2 ^ idx.length := by
  induction idx with
  | nil => exact Nat.two_pow_pos _
  | cons b rest ih =>
    simp only [valMsb, List.length_cons, Nat.pow_succ]
    cases b <;> simp only [b2n, Bool.false_eq_true, ↓reduceIte] <;> omega

/-- **`mux` delivers exactly input number `index`** for every select width and every input list of
    the full length `2^len(index)`. -/
theorem mux_selects_index (idx : List Bool) (ins : List Nat) (h : ins.length = 2 ^ idx.length) :
    muxMsb idx ins = ins.getD (valMsb idx) 0 := by
  induction idx generalizing ins with
  | nil => cases ins <;> rfl
  | cons b rest ih =>
    have hlen : ins.length = 2 * 2 ^ rest.length := by
      rw [h, List.length_cons, Nat.pow_succ, Nat.mul_comm]
    have hhalf : ins.length / 2 = 2 ^ rest.length := by rw [hlen, Nat.mul_div_cancel_left _ Nat.two_pos]
    simp only [muxMsb, hhalf]
    cases b
    · simp only [Bool.false_eq_true, if_false, valMsb, b2n, Nat.zero_mul, Nat.zero_add]
      rw [ih _ (by rw [List.length_take]; omega)]
      simp only [List.getD_eq_getElem?_getD, List.getElem?_take, valMsb_lt rest, if_true]
    · simp only [if_true, valMsb, b2n, Nat.one_mul]
      rw [ih _ (by rw [List.length_drop, hlen, Nat.two_mul, Nat.add_sub_cancel])]
      simp only [List.getD_eq_getElem?_getD, List.getElem?_drop]

/-- **`default=` is used only for the indices beyond the listed inputs.** -/
theorem mux_default_only_unlisted (idx : List Bool) (ins : List Nat) (d : Nat)
    (h : ins.length ≤ 2 ^ idx.length) :
    mux idx ins d = if valMsb idx < ins.length then ins.getD (valMsb idx) 0 else d := by
  unfold mux
  rw [mux_selects_index idx _ (by rw [List.length_append, List.length_replicate, Nat.add_sub_cancel' h])]
  have hv := valMsb_lt idx
  simp only [List.getD_eq_getElem?_getD, List.getElem?_append, List.getElem?_replicate]
  by_cases hlt : valMsb idx < ins.length
  · simp [hlt]
  · have : valMsb idx - ins.length < 2 ^ idx.length - ins.length := by omega
    simp [hlt, this]

theorem demux_length (idx : List Bool) : (demuxMsb idx).length = 2 ^ idx.length := by
  induction idx with
  | nil => rfl
  | cons b rest ih => simp [demuxMsb, ih, Nat.pow_succ]; omega

theorem demux_getElem? (idx : List Bool) (j : Nat) (hj : j < 2 ^ idx.length) :
    (demuxMsb idx)[j]? = some (decide (j = valMsb idx)) := by
  induction idx generalizing j with
  | nil =>
    obtain rfl : j = 0 := by simpa using hj
    rfl
  | cons b rest ih =>
    have hv := valMsb_lt rest
    rw [List.length_cons, Nat.pow_succ] at hj
    simp only [demuxMsb, valMsb, List.getElem?_append, List.length_map, demux_length, List.getElem?_map]
    split
    · rename_i c
      rw [ih j c]
      cases b
      · simp [b2n]
      · simp [b2n]
        omega
    · rw [ih _ (by omega)]
      cases b <;> simp [b2n] <;> omega

/-- **`demux` is one-hot at the selected index.** -/
theorem demux_one_hot (idx : List Bool) (j : Nat) (hj : j < 2 ^ idx.length) :
    (demuxMsb idx).getD j false = decide (j = valMsb idx) := by
  rw [List.getD_eq_getElem?_getD, demux_getElem? idx j hj, Option.getD_some]

/-- **`bitfield_update`** at the value level: the bits `lo … hi` (the slice `range(len)[start:end]`
    after CPython's normalisation) are replaced by the new value, all other bits are kept. -/
theorem bitfield_update_exact (w nv lo n W : Nat) (hnv : nv < 2 ^ n) (hW : lo + n ≤ W) (hw : w < 2 ^ W) :
    Spec.comb .concat [(W - (lo + n), w / 2 ^ (lo + n)), (n, nv), (lo, w % 2 ^ lo)] W
      = (w / 2 ^ (lo + n)) * 2 ^ (lo + n) + nv * 2 ^ lo + w % 2 ^ lo := by
  have hupper : w / 2 ^ (lo + n) < 2 ^ (W - (lo + n)) := div_two_pow_lt (by rwa [Nat.add_sub_cancel' hW])
  rw [Spec.comb_concat (by simp [hupper, hnv, Nat.mod_lt w (Nat.two_pow_pos lo)])
    (by simp only [List.map_cons, List.map_nil, List.sum_cons, List.sum_nil]; omega)]
  simp only [Spec.concatVal, Nat.zero_mul, Nat.zero_add, Nat.pow_add]
  ring

/-- **chop / partition_wire reproduce the whole**: splitting a value at any bit position and
    concatenating the two pieces (upper piece most significant) gives the value back; by iteration,
    so does any chain of such splits. -/
theorem split_concat_id (v k W : Nat) (hv : v < 2 ^ W) :
    Spec.comb .concat [(W - k, v / 2 ^ k), (k, v % 2 ^ k)] W = v := by
  simp only [Spec.comb, Spec.concatVal, Nat.zero_mul, Nat.zero_add]
  rw [Nat.mod_eq_of_lt (by rw [Nat.mul_comm, Nat.div_add_mod]; exact hv), Nat.mul_comm, Nat.div_add_mod]

/-- barrel shifter (re-exported from C06): full-amount shift, either direction, chosen fill bit -/
theorem barrel_shift_eq (bits : List Bool) (bitIn dir : Bool) (sd : List Bool) (h : 0 < bits.length) :
    Barrel.barrelShifter bits bitIn dir sd = Barrel.shiftSpec bits bitIn dir (Barrel.dist sd) :=
  C06.barrel_shift_eq bits bitIn dir sd h

example : muxMsb [true, false] [10, 11, 12, 13] = 12 := by decide
example : demuxMsb [true, false] = [false, false, true, false] := by decide

end Pyrtl.C14
