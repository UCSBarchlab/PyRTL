import Model.Graph.Analysis
import Proofs.Lemmas.EvalOrder
/-!
# C17 — timing, path and fan-out analyses equal their graph-theoretic definitions

`Analysis.timingMap` follows `_generate_timing_map`; `Analysis.Reach δ nets w d` says: there is a
register-free path from a source (a wire no net of `nets` drives: Input, Const, Register) to `w` whose
gate delays sum to `d`.
-/
namespace Pyrtl.C17
open Pyrtl.Analysis

theorem foldl_max_spec (l : List Nat) (init : Nat) :
    l.foldl max init ∈ init :: l ∧ ∀ x ∈ init :: l, x ≤ l.foldl max init :=
  List.max?_eq_some_iff.mp List.max?_cons'

theorem le_foldl_max_map (t : Nat → Nat) {l : List Nat} {a : Nat} (ha : a ∈ l) : t a ≤ (l.map t).foldl max 0 :=
  (foldl_max_spec _ 0).2 _ (List.mem_cons_of_mem _ (List.mem_map_of_mem ha))

theorem timing_upper_bound {δ : Net → Nat} {nets : List Net} {v : Env}
    (hc : Consistent (delayFun δ) nets (fun _ => 0) v) :
    ∀ w d, Reach δ nets w d → d ≤ v w := by
  intro w d h
  induction h with
  | src w hw => simp
  | step n hn a ha d _ ih =>
    rw [hc.1 n hn]
    have := le_foldl_max_map v ha
    simp only [delayFun]
    omega

theorem timing_attained {δ : Net → Nat} {all : List Net} {v : Env} (hto : Topo all all [])
    (hc : Consistent (delayFun δ) all (fun _ => 0) v) (hne : ∀ n ∈ all, n.args ≠ []) :
    ∀ w, Reach δ all w (v w) := by
  refine topo_wire_induction all hto (fun w => Reach δ all w (v w))
    (fun w hw => by rw [hc.2 w hw]; exact Reach.src w hw) fun m hm ih => ?_
  -- from the first argument on, the maximum is the value of some argument
  obtain ⟨a, ha, hav⟩ : ∃ a ∈ m.args, v a = (m.args.map v).foldl max 0 := by
    obtain ⟨x, xs, hxs⟩ := List.exists_cons_of_ne_nil (hne m hm)
    rw [hxs, List.map_cons, List.foldl_cons, Nat.zero_max]
    exact List.mem_map.mp (foldl_max_spec (xs.map v) (v x)).1
  rw [hc.1 m hm, delayFun, ← hav]
  exact Reach.step m hm a ha (v a) (ih a ha)

/-- **`timing_map` is the longest-path length**: for every dependency order of the combinational
    nets (whichever way `Block.__iter__` broke ties), every net destination's timing is attained by a
    register-free path from a source and exceeded by none. -/
theorem timing_map_eq_longest_path (δ : Net → Nat) (order : List Net) (htopo : isTopo order = true)
    (hne : ∀ n ∈ order, n.args ≠ []) (n : Net) (hn : n ∈ order) :
    Reach δ order n.dest (timingMap δ order n.dest) ∧
    ∀ d, Reach δ order n.dest d → d ≤ timingMap δ order n.dest := by
  have ht := isTopo_sound order htopo
  have hc : Consistent (delayFun δ) order (fun _ => 0) (timingMap δ order) :=
    evalSeq_consistent _ order _ ht
  exact ⟨timing_attained ht hc hne n.dest, timing_upper_bound hc n.dest⟩

/-- and it does not depend on which dependency order was used -/
theorem timing_map_order_independent (δ : Net → Nat) (o1 o2 : List Net)
    (hp : ∀ n, n ∈ o1 ↔ n ∈ o2) (h1 : isTopo o1 = true) (h2 : isTopo o2 = true) :
    ∀ w, timingMap δ o1 w = timingMap δ o2 w :=
  eval_any_topo_order _ o1 o2 _ hp (isTopo_sound o1 h1) (isTopo_sound o2 h2)

/-- **`max_length` is the largest timing** of the listed wires. -/
theorem max_length_is_max (t : Nat → Nat) (wires : List Nat) :
    (∀ w ∈ wires, t w ≤ maxLength t wires) ∧ (maxLength t wires = 0 ∨ ∃ w ∈ wires, t w = maxLength t wires) := by
  refine ⟨fun w hw => le_foldl_max_map t hw, ?_⟩
  rcases List.mem_cons.mp (foldl_max_spec (wires.map t) 0).1 with h | h
  · exact .inl h
  · obtain ⟨w, hw, e⟩ := List.mem_map.mp h
    exact .inr ⟨w, hw, e⟩

/-- **fanout** counts net argument positions (a wire used twice by one net counts twice) -/
theorem fanout_eq_arg_positions (nets : List Net) (w : Nat) :
    fanout nets w = (nets.map fun n => n.args.count w).sum :=
  List.count_flatMap

example : fanout [⟨.and, [3, 3], [4]⟩, ⟨.inv, [3], [5]⟩] 3 = 3 := by decide

end Pyrtl.C17
