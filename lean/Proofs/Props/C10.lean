import Model.Graph.Sanity
import Proofs.Lemmas.RunRefine
/-!
# C10 — malformed netlists are rejected

`netRejects` is `Block.sanity_check_net` as regenerated from core.py on every run (`Gen.SanityTable`,
one Boolean rule per `if …: raise`).  Each theorem: a net (wherever it sits in the design) showing
the fault is rejected.  `check` is the block-level model of `sanity_check` + the acyclicity test of
`Block.__iter__`; its agreement with the real code on every generated good and faulty block is the
correspondence obligation of tools/checks/c10.py.

The last part is the other half of the property: an accepted design iterates in dependency order (`Kahn`).
-/
namespace Pyrtl.C10
open Pyrtl.Graph Pyrtl.Gen.SanityTable

/-- `netRejects` is the disjunction of the rules: once `h : rule_k v = true` the net is rejected -/
local macro "rejected_by " h:term : tactic =>
  `(tactic| simp only [netRejects, $h:term, Bool.or_true, Bool.true_or])

theorem opIn_of_mem {s : String} {ops : List String} (h : ops.all (opIn s) = true) {op : String}
    (hop : op ∈ ops) : opIn s op = true := List.all_eq_true.1 h op hop

/-- the shape of the arity and width rules: a test on the op and an arithmetic condition -/
theorem fires {t : Bool} {p : Prop} [Decidable p] (ht : t = true) (hp : p) : (t && decide p) = true := by
  rw [ht, decide_eq_true hp]; rfl

theorem binaryOps : ["&", "|", "^", "n", "+", "-", "*", "<", ">", "="].all (opIn "&|^n+-*<>=") = true := by decide +kernel
theorem memOps : ["m", "@"].all (opIn "m@") = true := by decide +kernel

/-- a wire of another block / an unregistered wire anywhere in a net -/
theorem foreign_wire_rejected (v : NetView) (h : v.foreign = true) : netRejects v = true := by
  have : rule0 v = true := h
  rejected_by this

theorem input_const_dest_rejected (v : NetView) (h : v.destIsInputOrConst = true) : netRejects v = true := by
  have : rule2 v = true := h
  rejected_by this

theorem output_arg_rejected (v : NetView) (h : v.argIsOutput = true) : netRejects v = true := by
  have : rule3 v = true := h
  rejected_by this

theorem illegal_op_rejected (v : NetView) (h : v.legal = false) : netRejects v = true := by
  have : rule4 v = true := by rw [rule4, h]; rfl
  rejected_by this

theorem bad_arity_rejected (v : NetView) :
    (v.op ∈ ["w", "~", "r", "s", "m"] → v.nargs ≠ 1 → netRejects v = true) ∧
    (v.op ∈ ["&", "|", "^", "n", "+", "-", "*", "<", ">", "="] → v.nargs ≠ 2 → netRejects v = true) ∧
    (v.op ∈ ["x", "@"] → v.nargs ≠ 3 → netRejects v = true) := by
  refine ⟨?_, ?_, ?_⟩ <;> intro hop hn
  · have : rule5 v = true := fires (opIn_of_mem (by decide +kernel) hop) (by omega)
    rejected_by this
  · have : rule6 v = true := fires (opIn_of_mem binaryOps hop) (by omega)
    rejected_by this
  · rcases List.mem_cons.1 hop with h | hop
    · have : rule7 v = true := fires (beq_iff_eq.2 h) (by omega)
      rejected_by this
    · have : rule10 v = true := fires (beq_iff_eq.2 (List.mem_singleton.1 hop)) (by omega)
      rejected_by this

/-- wrong bitwidths, every rule of the documented table -/
theorem bad_width_rejected (v : NetView) :
    (v.op ∈ ["&", "|", "^", "n", "+", "-", "*", "<", ">", "="] → v.aw 0 ≠ v.aw 1 → netRejects v = true) ∧
    (v.op = "x" → (v.aw 0 ≠ 1 ∨ v.aw 1 ≠ v.aw 2 ∨ v.dw > v.aw 1) → netRejects v = true) ∧
    (v.op ∈ ["w", "~", "&", "|", "^", "n", "r"] → v.dw > v.aw 0 → netRejects v = true) ∧
    (v.op ∈ ["<", ">", "="] → v.dw ≠ 1 → netRejects v = true) ∧
    (v.op ∈ ["+", "-"] → v.dw > v.aw 0 + 1 → netRejects v = true) ∧
    (v.op = "*" → v.dw > 2 * v.aw 0 → netRejects v = true) ∧
    (v.op = "c" → v.dw > v.sumw → netRejects v = true) ∧
    (v.op = "s" → v.dw > v.plen → netRejects v = true) ∧
    (v.op ∈ ["m", "@"] → v.aw 0 ≠ v.memAW → netRejects v = true) ∧
    (v.op = "m" → v.dw ≠ v.memDW → netRejects v = true) ∧
    (v.op = "@" → (v.aw 1 ≠ v.memDW ∨ v.aw 2 ≠ 1) → netRejects v = true) := by
  refine ⟨?_, ?_, ?_, ?_, ?_, ?_, ?_, ?_, ?_, ?_, ?_⟩ <;> intro hop hw
  · have : rule11 v = true := fires (opIn_of_mem binaryOps hop) (by omega)
    rejected_by this
  · have hx : (v.op == "x") = true := beq_iff_eq.2 hop
    rcases hw with h | h | h
    · have : rule9 v = true := fires hx (by omega)
      rejected_by this
    · have : rule8 v = true := fires hx (by omega)
      rejected_by this
    · have : rule27 v = true := fires hx (by omega)
      rejected_by this
  · have : rule23 v = true := fires (opIn_of_mem (by decide +kernel) hop) (by omega)
    rejected_by this
  · have : rule24 v = true := fires (opIn_of_mem (by decide +kernel) hop) (by omega)
    rejected_by this
  · have : rule25 v = true := fires (opIn_of_mem (by decide +kernel) hop) (by omega)
    rejected_by this
  · have : rule26 v = true := fires (beq_iff_eq.2 hop) (by omega)
    rejected_by this
  · have : rule28 v = true := fires (beq_iff_eq.2 hop) (by omega)
    rejected_by this
  · have : rule29 v = true := fires (beq_iff_eq.2 hop) (by omega)
    rejected_by this
  · have : rule12 v = true := fires (opIn_of_mem memOps hop) (by omega)
    rejected_by this
  · have : rule30 v = true := fires (beq_iff_eq.2 hop) (by omega)
    rejected_by this
  · have hx : (v.op == "@") = true := beq_iff_eq.2 hop
    rcases hw with h | h
    · have : rule13 v = true := fires hx (by omega)
      rejected_by this
    · have : rule14 v = true := fires hx (by omega)
      rejected_by this

/-- wrong parameters: a select index outside the argument, a parameter on an op that takes none,
    a missing parameter tuple -/
theorem bad_param_rejected (v : NetView) :
    (v.op = "s" → (∃ p ∈ v.pvals, p < 0 ∨ p ≥ (v.aw 0 : Int)) → netRejects v = true) ∧
    (v.op ∈ ["w", "~", "&", "|", "^", "n", "+", "-", "*", "<", ">", "=", "x", "c", "r"] → v.pnone = false →
        netRejects v = true) ∧
    (v.op ∈ ["s", "m", "@"] → v.ptuple = false → netRejects v = true) := by
  refine ⟨fun hop ⟨p, hp, hbad⟩ => ?_, fun hop hp => ?_, fun hop hp => ?_⟩
  · have : rule17 v = true := by
      refine List.any_eq_true.2 ⟨p, hp, ?_⟩
      rw [beq_iff_eq.2 hop, Bool.true_and, Bool.or_eq_true, decide_eq_true_eq, decide_eq_true_eq]
      exact hbad
    rejected_by this
  · have : rule15 v = true := by rw [rule15, opIn_of_mem (by decide +kernel) hop, hp]; rfl
    rejected_by this
  · rcases List.mem_cons.1 hop with h | hop
    · have : rule16 v = true := by rw [rule16, beq_iff_eq.2 h, hp]; rfl
      rejected_by this
    · have : rule18 v = true := by rw [rule18, opIn_of_mem memOps hop, hp]; rfl
      rejected_by this

theorem logic_op_classes : ∀ op ∈ ["&", "|", "^", "n"],
    opIn "w~rsm" op = false ∧ opIn "&|^n+-*<>=" op = true ∧ opIn "m@" op = false ∧
    opIn "w~&|^n+-*<>=xcr" op = true ∧ opIn "w~&|^n+-*<>=xcsrm" op = true ∧ opIn "w~&|^nr" op = true ∧
    opIn "<>=" op = false ∧ opIn "+-" op = false ∧
    (op == "x") = false ∧ (op == "@") = false ∧ (op == "s") = false ∧ (op == "r") = false ∧
    (op == "*") = false ∧ (op == "c") = false ∧ (op == "m") = false := by decide +kernel

theorem logic_net_accepted_iff {v : NetView} (hop : v.op ∈ ["&", "|", "^", "n"]) :
    netRejects v = false ↔
      v.foreign = false ∧ v.destIsInputOrConst = false ∧ v.argIsOutput = false ∧ v.legal = true ∧ v.nargs = 2 ∧
      v.aw 0 = v.aw 1 ∧ v.pnone = true ∧ v.ndests = 1 ∧ v.dw ≤ v.aw 0 := by
  have classes := logic_op_classes v.op hop
  have e1 : ((v.nargs : Int) = 2) ↔ v.nargs = 2 := by omega
  have e2 : ((v.ndests : Int) = 1) ↔ v.ndests = 1 := by omega
  -- `classes` switches off every rule whose op test fails; the conditions of the others are the nine conjuncts
  simp only [netRejects, rule0, rule1, rule2, rule3, rule4, rule5, rule6, rule7, rule8, rule9, rule10, rule11,
    rule12, rule13, rule14, rule15, rule16, rule17, rule18, rule19, rule20, rule21, rule22, rule23, rule24,
    rule25, rule26, rule27, rule28, rule29, rule30, classes,
    Bool.false_and, Bool.true_and, Bool.or_false, List.any_eq_false, Bool.or_eq_false_iff,
    Bool.not_eq_eq_eq_not, Bool.not_false, decide_eq_false_iff_not, ne_eq, Decidable.not_not,
    Int.natCast_inj, Int.ofNat_lt, gt_iff_lt, Nat.not_lt, Bool.false_eq_true, not_false_eq_true,
    implies_true, and_true, and_self, and_assoc, e1, e2]

/-- Completeness on the API's nets (no false rejection): a well-formed bitwise net (`& | ^ nand`) over the
    block's own wires is accepted. -/
theorem api_binary_net_accepted (v : NetView) (w dw : Nat)
    (hop : v.op ∈ ["&", "|", "^", "n"]) (hl : v.legal = true) (hna : v.nargs = 2) (hnd : v.ndests = 1)
    (haw : v.argw = [w, w]) (hdw : v.dw = dw) (hle : dw ≤ w) (hp : v.pnone = true) (hpv : v.pvals = [])
    (hf : v.foreign = false) (hd : v.destIsInputOrConst = false) (ha : v.argIsOutput = false) :
    netRejects v = false := by
  -- `hpv` is not needed: rule17 tests the op inside its `any`
  have a0 : v.aw 0 = w := by rw [NetView.aw, haw]; rfl
  have a1 : v.aw 1 = w := by rw [NetView.aw, haw]; rfl
  exact (logic_net_accepted_iff hop).2 ⟨hf, hd, ha, hl, hna, a0.trans a1.symm, hp, hnd, by omega⟩

theorem reject_ne_ok {c : Bool} {why : String} {x : Verdict} :
    (if c = true then Verdict.reject why else x) = .ok ↔ c = false ∧ x = .ok := by
  cases c <;> simp

theorem check_ok_iff {b : RawBlock} : check b = .ok ↔
    let members := (List.range b.wires.size).filter fun i => (b.wires[i]?.map (·.member)).getD false
    let dests := b.nets.flatMap (·.dests)
    let args := b.nets.flatMap (·.args)
    b.nets.any (fun n => netRejects n.view) = false ∧
    hasDup (members.map fun i => (b.wires[i]?.map (·.name)).getD "") = false ∧
    hasDupNat dests = false ∧
    (dests ++ args).any (fun i => !members.contains i) = false ∧
    members.any (fun i => !(dests ++ args).contains i && !isSource b i) = false ∧
    args.any (fun i => !dests.contains i && !isSource b i) = false ∧
    members.any (fun i => !((b.wires[i]?.map (·.byname)).getD false)) = false ∧
    (topoLoop ((combNetsOf b).map Net.dest) ((combNetsOf b).length + 1) (combNetsOf b) [] []).isSome = true := by
  simp only [check, reject_ne_ok]
  cases topoLoop ((combNetsOf b).map Net.dest) ((combNetsOf b).length + 1) (combNetsOf b) [] [] <;>
    simp only [Option.isSome_some, Option.isSome_none, reduceCtorEq, Bool.false_eq_true, and_false, and_true]

theorem bad_net_rejected (b : RawBlock) (h : ∃ n ∈ b.nets, netRejects n.view = true) : check b ≠ .ok := by
  intro hok
  rw [← List.any_eq_true, (check_ok_iff.1 hok).1] at h
  exact Bool.false_ne_true h

theorem two_drivers_rejected (b : RawBlock) (h : hasDupNat (b.nets.flatMap (·.dests)) = true) :
    check b ≠ .ok := by
  intro hok
  rw [(check_ok_iff.1 hok).2.2.1] at h
  exact Bool.false_ne_true h

/-- two registered wires with the same name -/
theorem dup_name_rejected (b : RawBlock)
    (h : hasDup (((List.range b.wires.size).filter fun i => (b.wires[i]?.map (·.member)).getD false).map
          fun i => (b.wires[i]?.map (·.name)).getD "") = true) : check b ≠ .ok := by
  intro hok
  rw [(check_ok_iff.1 hok).2.1] at h
  exact Bool.false_ne_true h

example : hasDupNat [3, 5, 3] = true := by decide
example : hasDup ["a", "b"] = false := by decide

open RunRefine

/-- `Block.__iter__` as a relation: repeatedly emit *any* pending net all of whose arguments are
    cleared (sources, or destinations of nets emitted earlier); which one is a matter of set order.
    `Kahn b pending cleared order`: `order` is a complete run of that loop. -/
inductive Kahn (b : Block) : List Net → List Nat → List Net → Prop
  | nil {cleared : List Nat} : Kahn b [] cleared []
  | step {pending : List Net} {cleared : List Nat} {n : Net} {rest : List Net} :
      n ∈ pending → (∀ a ∈ n.args, a ∈ cleared ∨ Src b a) →
      Kahn b (pending.erase n) (n.dest :: cleared) rest → Kahn b pending cleared (n :: rest)

/-- **whichever ready net is picked at each step**, the emitted order is a schedule: every net comes
    after the drivers of all its arguments (this is the `sched` field of `C01.WF`) … -/
theorem iter_order_is_schedule (b : Block) (pending : List Net) (cleared : List Nat) (order : List Net)
    (h : Kahn b pending cleared order) : Sched b order cleared := by
  induction h with
  | nil => trivial
  | step _ hready _ ih => exact ⟨hready, ih⟩

/-- … and contains every net exactly as often as the block does -/
theorem iter_order_is_permutation (b : Block) (pending : List Net) (cleared : List Nat) (order : List Net)
    (h : Kahn b pending cleared order) : order.Perm pending := by
  induction h with
  | nil => exact List.Perm.refl _
  | step hmem _ _ ih => exact (List.Perm.cons _ ih).trans (List.perm_cons_erase hmem).symm

-- non-vacuity: a two-net chain listed in reverse comes out in dependency order
example : Kahn ⟨#[⟨"i", 1, .input⟩, ⟨"t", 1, .plain⟩, ⟨"u", 1, .plain⟩], [], []⟩
    [⟨.inv, [1], [2]⟩, ⟨.w, [0], [1]⟩] [] [⟨.w, [0], [1]⟩, ⟨.inv, [1], [2]⟩] := by
  refine Kahn.step (by decide) ?_ (Kahn.step (by decide) ?_ Kahn.nil)
  · intro a ha; simp at ha; subst ha; exact Or.inr trivial
  · intro a ha; simp at ha; subst ha; exact Or.inl (by simp [Net.dest])

end Pyrtl.C10
