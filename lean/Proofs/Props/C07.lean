import Model.Pass.Cond
/-!
# C07 — conditional_assignment gives each target its unique active branch's value

`Cond.currentSelect` mirrors `_current_select`, `Cond.inConflict` mirrors
`_pred_sets_are_in_conflict`, `Cond.chain` mirrors the select chain built by `_finalize`.
The real elaboration is compared with these on every generated program (tools/checks/c07.py).
-/
namespace Pyrtl.C07
open Pyrtl.Cond

/-- **Accepted ⇒ exclusive**: two assignments that are not in conflict share a predicate with
    opposite polarity, so they are never both active. -/
theorem accepted_implies_exclusive (ρ : Nat → Bool) (a b : List Lit) (h : inConflict a b = false) :
    ¬ (holds ρ a = true ∧ holds ρ b = true) := by
  intro ⟨ha, hb⟩
  simp only [inConflict, Bool.not_eq_false', List.any_eq_true, Bool.and_eq_true, beq_iff_eq, bne_iff_ne] at h
  obtain ⟨la, hla, lb, hlb, hp, hn⟩ := h
  simp only [holds, List.all_eq_true, bne_iff_ne] at ha hb
  have h1 := ha la hla
  have h2 := hb lb hlb
  rw [hp] at h1
  -- three Booleans cannot be pairwise different
  revert h1 h2 hn
  generalize ρ lb.pred = x, la.neg = y, lb.neg = z
  decide +revert

/-- `_check_and_add_pred_set` hands the test the later assignment first, `anyConflict` the earlier one. -/
theorem inConflict_symm (a b : List Lit) : inConflict a b = inConflict b a := by
  simp only [inConflict]
  congr 1
  apply Bool.eq_iff_iff.mpr
  simp only [List.any_eq_true, Bool.and_eq_true, beq_iff_eq, bne_iff_ne]
  constructor
  · rintro ⟨x, hx, y, hy, e, n⟩; exact ⟨y, hy, x, hx, e.symm, n.symm⟩
  · rintro ⟨x, hx, y, hy, e, n⟩; exact ⟨y, hy, x, hx, e.symm, n.symm⟩

/-- **When no assigning branch is active the target takes its default** (0 / the register itself /
    the declared default, whichever `_finalize` starts the chain with). -/
theorem no_active_gives_default (ρ : Nat → Bool) (d : Nat) (asgs : List (List Lit × Nat))
    (h : ∀ a ∈ asgs, holds ρ a.1 = false) : chain ρ d asgs = d := by
  induction asgs generalizing d with
  | nil => rfl
  | cons a rest ih =>
    obtain ⟨ha, h⟩ := List.forall_mem_cons.mp h
    simp only [chain, List.foldl_cons, ha, Bool.false_eq_true, if_false]
    exact ih d h

/-- **The select chain yields the rhs of the unique active branch**, wherever it sits in program
    order, provided the program was accepted (no two assignments to the target in conflict). -/
theorem select_chain_eq_active (ρ : Nat → Bool) (d : Nat) (asgs : List (List Lit × Nat))
    (hacc : anyConflict (asgs.map (·.1)) = false) (a : List Lit × Nat) (ha : a ∈ asgs)
    (hact : holds ρ a.1 = true) : chain ρ d asgs = a.2 := by
  induction asgs generalizing d with
  | nil => simp at ha
  | cons x rest ih =>
    simp only [List.map_cons, anyConflict, Bool.or_eq_false_iff, List.any_eq_false, List.mem_map,
      Bool.not_eq_true] at hacc
    obtain ⟨hx, hrest⟩ := hacc
    have excl : ∀ y ∈ rest, ¬ (holds ρ x.1 = true ∧ holds ρ y.1 = true) := fun y hy =>
      accepted_implies_exclusive ρ x.1 y.1 (hx y.1 ⟨y, hy, rfl⟩)
    simp only [chain, List.foldl_cons]
    rcases List.mem_cons.mp ha with rfl | hin
    · rw [if_pos hact]
      exact no_active_gives_default ρ _ rest fun y hy => Bool.eq_false_iff.2 fun hh => excl y hy ⟨hact, hh⟩
    · rw [if_neg fun hh => excl a hin ⟨hh, hact⟩]
      exact ih d hrest hin

theorem holds_append (ρ : Nat → Bool) (a b : List Lit) : holds ρ (a ++ b) = (holds ρ a && holds ρ b) := by
  simp [holds, List.all_append]

theorem holds_guardLits_neg (ρ : Nat → Bool) (gs : List Guard) (hno : ∀ g ∈ gs, g ≠ Guard.otherwise) :
    holds ρ (guardLits gs true) = gs.all (fun g => !guardHolds ρ g) := by
  induction gs with
  | nil => rfl
  | cons g rest ih =>
    obtain ⟨hg, hrest⟩ := List.forall_mem_cons.mp hno
    have ih' := ih hrest
    cases g with
    | otherwise => exact absurd rfl hg
    | pred i =>
      simp only [guardLits, List.filterMap_cons, holds, List.all_cons, guardHolds] at ih' ⊢
      rw [ih']
      cases ρ i <;> simp

theorem betweenAux_no_otherwise (pl acc : List Guard) (hacc : ∀ g ∈ acc, g ≠ Guard.otherwise) :
    ∀ g ∈ betweenAux pl acc, g ≠ Guard.otherwise := by
  induction pl generalizing acc with
  | nil => exact fun g hg => hacc g (List.mem_reverse.1 hg)
  | cons x rest ih =>
    cases x with
    | otherwise => exact ih [] (by simp)
    | pred i => exact ih _ (List.forall_mem_cons.2 ⟨nofun, hacc⟩)

theorem betweenAux_eq (l acc : List Guard) (hl : ∀ g ∈ l, g ≠ Guard.otherwise) :
    betweenAux l acc = acc.reverse ++ l := by
  induction l generalizing acc with
  | nil => simp [betweenAux]
  | cons x rest ih =>
    obtain ⟨hx, hrest⟩ := List.forall_mem_cons.mp hl
    cases x with
    | otherwise => exact absurd rfl hx
    | pred i =>
      simp only [betweenAux]
      rw [ih _ hrest]
      simp

theorem betweenAux_otherwise (l r acc : List Guard) :
    betweenAux (l ++ Guard.otherwise :: r) acc = betweenAux r [] := by
  induction l generalizing acc with
  | nil => rfl
  | cons x rest ih => cases x <;> exact ih _

theorem holds_level (ρ : Nat → Bool) (pl : List Guard) :
    holds ρ (guardLits (between pl) true ++ guardLits pl.getLast?.toList false) = levelActive ρ pl := by
  rw [holds_append, levelActive, holds_guardLits_neg ρ (between pl) (betweenAux_no_otherwise _ [] (by simp))]
  congr 1
  cases pl.getLast? with
  | none => rfl
  | some g =>
    cases g with
    | otherwise => rfl
    | pred i => simp [guardLits, holds, guardHolds]

/-- **The conjunction the code builds is the statement's "active"**: a branch is active exactly
    when, at every enclosing level, its guard holds and no earlier sibling since the last
    `otherwise` at that level was taken. -/
theorem current_select_eq_active (ρ : Nat → Bool) (stack : List (List Guard)) :
    holds ρ (currentSelect stack) = activeSpec ρ stack := by
  rw [holds, currentSelect, List.all_flatMap]
  exact congrArg stack.all (funext (holds_level ρ))

/-- **`otherwise` resets the chain**: siblings entered before an `otherwise` are not negated in
    the branches that follow it. -/
theorem otherwise_resets_chain (before after : List Guard) (cur : Guard)
    (h : ∀ g ∈ after, g ≠ Guard.otherwise) :
    between (before ++ [Guard.otherwise] ++ after ++ [cur]) = after := by
  rw [between, List.dropLast_concat, List.append_assoc, List.singleton_append, betweenAux_otherwise,
    betweenAux_eq after [] h]
  rfl

-- `with a: … / with b: …`: the second branch is `¬a ∧ b`, exclusive with the first; after an `otherwise`
-- between them `b` is not guarded by `¬a`, both can be active and the pair is rejected
example : currentSelect [[.pred 0, .pred 1]] = [⟨0, true⟩, ⟨1, false⟩] := by decide
example : inConflict (currentSelect [[.pred 0]]) (currentSelect [[.pred 0, .pred 1]]) = false := by decide
example : inConflict (currentSelect [[.pred 0]]) (currentSelect [[.pred 0, .otherwise, .pred 1]]) = true := by decide

end Pyrtl.C07
