import Proofs.Lemmas.Adders
import Proofs.Lemmas.KoggeStone
import Proofs.Lemmas.SeqMult
import Proofs.Lemmas.Wallace
import Proofs.Lemmas.Signed
/-!
# C13 — rtllib adders and multipliers are exact for all widths and values

`Adders.*` are the impl models of adders.py on LSB-first bit lists; the real generators' netlists are
compared with them (and with exact arithmetic) by every check run (tools/checks/c13.py).
-/
namespace Pyrtl.C13
open Pyrtl.Synth Pyrtl.Adders

/-- **`ripple_add`**: exact `a + b + cin` for operands of *any two lengths* (the half-adder tail
    handles the longer operand's remaining bits). -/
theorem ripple_exact (a b : List Bool) (cin : Bool) :
    toNat (rippleAdd a b cin) = toNat a + toNat b + b2n cin := by
  unfold rippleAdd
  split
  · rw [rippleAddL_spec b a cin (by omega)]; omega
  · rw [rippleAddL_spec a b cin (by omega)]

/-- **`cla_adder`**: exact `a + b + cin` for every operand length pair and every look-ahead unit
    length `la_unit_len ≥ 1`. -/
theorem cla_exact (a b : List Bool) (cin : Bool) (ul : Nat) (hul : 0 < ul) :
    toNat (claAdder a b cin ul) = toNat a + toNat b + b2n cin := by
  rw [claAdder_eq a b cin ul hul, rippleRef_val]

/-- the look-ahead unit on its own: sum bits and carry-out are exact -/
theorem cla_unit_exact (a b : List Bool) (cin : Bool) (h : a.length = b.length) (hne : 0 < a.length) :
    toNat (claUnit a b cin).1 + 2 ^ a.length * b2n (claUnit a b cin).2 = toNat a + toNat b + b2n cin :=
  claUnit_eq a b cin ▸ addHelper_spec a b cin h

/-- **`kogge_stone`**: exact `a + b + cin` for operands of any two lengths.  (The carry-in is merged into
    `G[0]` before the rounds: XORed into sum bit 0 only it would not be carried, and 0 + 1 + 1 at one bit
    would give 0.  So it was in the tree as first given; repaired by the `fix:` commit 1637579.) -/
theorem kogge_stone_exact (a b : List Bool) (cin : Bool) :
    toNat (koggeStone a b cin) = toNat a + toNat b + b2n cin := by
  rw [KS.koggeStone_eq, rippleRef_val]

example : toNat (koggeStone (ofNat 4 11) (ofNat 4 7) true) = 11 + 7 + 1 := by decide
example : toNat (koggeStone (ofNat 5 31) (ofNat 3 1) false) = 32 := by decide
example : toNat (claAdder (ofNat 5 29) (ofNat 2 3) true 2) = 33 := by decide

/-! ## Sequential multipliers (`simple_mult`: `s = 1`; `complex_mult`: `s = shifts`)

`SeqMult.step` is one clock edge of the register-level model (tied to the real netlists cycle by cycle on
random start/operand histories by tools/checks/c13.py).  A start pulse is `step st0 true A B` from an
*arbitrary* earlier state `st0` (reset, finished, or a multiplication still in flight); `idle` is any number
of cycles with `start = 0`, the operand inputs being free (they are not read).  The start edge is cycle 0;
the state after it and `k` idle edges is what is visible during cycle `k + 1`. -/
open Pyrtl.SeqMult in
/-- whenever `done` is seen after a start (however early), the accumulator is exactly `A * B` -/
theorem seq_mult_exact_whenever_done (alen blen s A B : Nat) (hA : A < 2 ^ alen) (hB : B < 2 ^ blen)
    (st0 : St) (ops : List (Nat × Nat))
    (hd : done (idle alen blen s (SeqMult.step alen blen s st0 true A B) ops) = true) :
    (idle alen blen s (SeqMult.step alen blen s st0 true A B) ops).acc = A * B :=
  (idle_inv ops (start_inv A B st0)).done_acc (mul_lt_two_pow hA hB) (by simpa [done] using hd)

open Pyrtl.SeqMult in
/-- `done` is up at the latest `len(A)` idle cycles after the start edge (cycle `len(A)+1`), stays up, and
    the accumulator then holds exactly `A * B`. -/
theorem seq_mult_done_and_exact (alen blen s A B : Nat) (hs : 1 ≤ s) (hA : A < 2 ^ alen) (hB : B < 2 ^ blen)
    (st0 : St) (ops : List (Nat × Nat)) (hlen : alen ≤ ops.length) :
    done (idle alen blen s (SeqMult.step alen blen s st0 true A B) ops) = true ∧
    (idle alen blen s (SeqMult.step alen blen s st0 true A B) ops).acc = A * B := by
  have hd : done (idle alen blen s (SeqMult.step alen blen s st0 true A B) ops) = true := by
    rw [done, idle_a, show (SeqMult.step alen blen s st0 true A B).a = A from rfl, beq_iff_eq]
    exact Nat.div_eq_of_lt (lt_two_pow_of_le hA (le_trans hlen (Nat.le_mul_of_pos_left _ hs)))
  exact ⟨hd, seq_mult_exact_whenever_done alen blen s A B hA hB st0 ops hd⟩

-- the hypotheses are satisfiable and the bound is met: 4-bit 13 x 11, restarted from a state in flight
example : SeqMult.idle 4 4 1 (SeqMult.step 4 4 1 ⟨9, 40, 17⟩ true 13 11) [(0, 0), (1, 2), (3, 4), (5, 6)]
    = ⟨0, 176, 143⟩ := by decide
example : SeqMult.done (SeqMult.idle 4 4 1 (SeqMult.step 4 4 1 ⟨9, 40, 17⟩ true 13 11) [(0, 0), (0, 0), (0, 0)]) = false := by decide
example : (SeqMult.idle 5 3 2 (SeqMult.step 5 3 2 SeqMult.init true 31 7) [(0, 0), (0, 0), (0, 0)]).acc = 217 := by decide

/-! ## Wallace-tree reduction: `wallace_reducer`, `fast_group_adder`, `tree_multiplier`

`Adders.wallaceReducer` models the reducer on a column array (`len(array) ≤ result_bitwidth`, as in every
caller); the final adder is a parameter of which only exactness is assumed — `ripple_exact`, `cla_exact`
and `kogge_stone_exact` above discharge it for the adders the library offers. -/

/-- `wallace_reducer` returns the weighted column sum modulo `2^result_bitwidth`, for every column array,
    every height and every exact final adder; the reduction loop always terminates (its fuel in the model,
    the tallest column, suffices: `reduceLoop_done`). -/
theorem wallace_reducer_value (adder : List Bool → List Bool → List Bool)
    (hadd : ∀ a b, toNat (adder a b) = toNat a + toNat b)
    (cols : List (List Bool)) (W : Nat) (hW : cols.length ≤ W) :
    toNat (wallaceReducer adder cols W) = colsVal cols % 2 ^ W := by
  obtain ⟨h2, hv⟩ := reduced_val cols W hW
  rw [wallaceReducer, toNat_cut, sparseAdd_val hadd h2, hv]

/-- **`fast_group_adder`** (Wallace reducer): the exact sum of any number of operands of any lengths -/
theorem fast_group_adder_exact (adder : List Bool → List Bool → List Bool)
    (hadd : ∀ a b, toNat (adder a b) = toNat a + toNat b) (ws : List (List Bool)) :
    toNat (fastGroupAdder adder ws) = (ws.map toNat).sum := by
  have hlen := le_maxLen ws
  obtain ⟨hl, hv⟩ := foldl_colsVal pushWire_val hlen List.length_replicate
  rw [fastGroupAdder, wallace_reducer_value adder hadd _ _ (by rw [hl]; exact Nat.le_add_right _ _), hv, colsVal_replicate,
    Nat.zero_add, Nat.add_comm]
  exact Nat.mod_eq_of_lt <| sum_lt_two_pow
    (List.forall_mem_map.mpr fun w hw => toNat_lt_of_length_le (hlen w hw))
    (by rw [List.length_map]; exact le_two_pow_clog2 _)

/-- **`tree_multiplier`** (Wallace reducer): the exact product for all operand lengths, including the
    one-bit shortcut -/
theorem tree_multiplier_exact (adder : List Bool → List Bool → List Bool)
    (hadd : ∀ a b, toNat (adder a b) = toNat a + toNat b) (A B : List Bool) (hA : A ≠ []) (hB : B ≠ []) :
    toNat (treeMultiplier adder A B) = toNat A * toNat B := by
  unfold treeMultiplier
  by_cases hb1 : B.length = 1
  · simp only [hb1, beq_self_eq_true, ↓reduceIte, trivialMult_val B A hb1, Nat.mul_comm]
  · by_cases ha1 : A.length = 1
    · simp only [beq_iff_eq, hb1, ha1, ↓reduceIte, trivialMult_val A B ha1]
    · simp only [beq_iff_eq, hb1, ha1, ↓reduceIte]
      obtain ⟨hpl, hpv⟩ := partials_val A B
      rw [wallace_reducer_value adder hadd _ _ (by rw [hpl]), hpv]
      exact Nat.mod_eq_of_lt (toNat_mul_lt A B)

/-- with the library's own adders as the final adder -/
theorem tree_multiplier_kogge_stone_exact (A B : List Bool) (hA : A ≠ []) (hB : B ≠ []) :
    toNat (treeMultiplier (fun a b => koggeStone a b false) A B) = toNat A * toNat B :=
  tree_multiplier_exact _ (fun a b => kogge_stone_exact a b false) A B hA hB

theorem fast_group_adder_kogge_stone_exact (ws : List (List Bool)) :
    toNat (fastGroupAdder (fun a b => koggeStone a b false) ws) = (ws.map toNat).sum :=
  fast_group_adder_exact _ (fun a b => kogge_stone_exact a b false) ws

/-- **`generalized_fma`** (hence `fused_multiply_adder`), Wallace reducer: the exact sum of products plus
    addends, for any number of pairs and addends of any (non-zero) lengths -/
theorem generalized_fma_exact (adder : List Bool → List Bool → List Bool)
    (hadd : ∀ a b, toNat (adder a b) = toNat a + toNat b)
    (pairs : List (List Bool × List Bool)) (adds : List (List Bool))
    (hp : ∀ p ∈ pairs, p.1 ≠ [] ∧ p.2 ≠ []) :
    toNat (generalizedFma adder pairs adds) =
      (pairs.map fun p => toNat p.1 * toNat p.2).sum + (adds.map toNat).sum := by
  unfold generalizedFma
  simp only []
  generalize hL : max (maxList (adds.map List.length)) (maxList (pairs.map fun p => p.1.length + p.2.length - 1)) = L
  obtain ⟨hl1, hv1⟩ := foldl_colsVal pushProd_val (n := L) (fun p hpm => by
      have := le_maxList_map (fun p => p.1.length + p.2.length - 1) pairs p hpm
      omega) List.length_replicate
  obtain ⟨hl2, hv2⟩ := foldl_colsVal pushWire_val (fun w hw => by
      have := le_maxList_map List.length adds w hw
      omega) hl1
  rw [wallace_reducer_value adder hadd _ _ (by rw [hl2]; exact Nat.le_max_left _ _), hv2, hv1, colsVal_replicate, Nat.zero_add]
  apply Nat.mod_eq_of_lt
  have h1 := sum_map_le (fun p => toNat p.1 * toNat p.2) (fun p => (2 ^ p.1.length - 1) * (2 ^ p.2.length - 1)) pairs
    fun p _ => Nat.mul_le_mul (Nat.le_pred_of_lt (toNat_lt p.1)) (Nat.le_pred_of_lt (toNat_lt p.2))
  have h2 := sum_map_le toNat (fun w => 2 ^ w.length - 1) adds fun w _ => Nat.le_pred_of_lt (toNat_lt w)
  calc _ ≤ _ := Nat.add_le_add h1 h2
    _ < 2 ^ bitLength _ := lt_two_pow_bitLength _
    _ ≤ _ := Nat.pow_le_pow_right (by decide) (Nat.le_max_right _ _)

/-- **`carrysave_adder`**: the exact sum of three operands of any lengths, with any exact final adder -/
theorem carrysave_exact (adder : List Bool → List Bool → List Bool)
    (hadd : ∀ a b, toNat (adder a b) = toNat a + toNat b) (a b c : List Bool) :
    toNat (carrysaveAdder adder a b c) = toNat a + toNat b + toNat c := by
  unfold carrysaveAdder
  simp only []
  generalize hn : max a.length (max b.length c.length) = n
  have ha := zext_length a n (by omega)
  have hb := zext_length b n (by omega)
  have hc := zext_length c n (by omega)
  rw [carrysave_join hadd (by simp [ha, hb, hc]) (by simp [ha, hb, hc]),
    carrysave_bits (ha.trans hb.symm) (hb.trans hc.symm), toNat_zext, toNat_zext, toNat_zext]

/-- **`signed_tree_multiplier`** over an exact unsigned multiplier `mul` (`tree_multiplier`, see
    `tree_multiplier_exact`): exactly the product of the two's-complement values in `len(A)+len(B)` bits, for
    every operand, *including the most negative one of each width* (whose magnitude `2^(n-1)` still fits the
    unsigned `n`-bit operand of the inner multiplier). -/
theorem signed_tree_multiplier_exact (mul : Ops.Sig → Ops.Sig → Ops.Sig)
    (hmul : ∀ x y : Ops.Sig, mul x y = (x.1 + y.1, x.2 * y.2))
    (wa a wb b : Nat) (hwa : 0 < wa) (hwb : 0 < wb) (ha : a < 2 ^ wa) (hb : b < 2 ^ wb) :
    (Ops.signedTreeMult mul (wa, a) (wb, b)).1 = wa + wb ∧
    Ops.toSigned (Ops.signedTreeMult mul (wa, a) (wb, b)) = Ops.toSigned (wa, a) * Ops.toSigned (wb, b) :=
  Ops.signedTreeMult_exact hmul hwa hwb ha hb

-- the most negative operands: (-4) x (-8) = 32 in 7 bits; (-4) x 7 = -28
example : Ops.toSigned (Ops.signedTreeMult (fun x y => (x.1 + y.1, x.2 * y.2)) (3, 4) (4, 8)) = 32 := by decide
example : Ops.toSigned (Ops.signedTreeMult (fun x y => (x.1 + y.1, x.2 * y.2)) (3, 4) (4, 7)) = -28 := by decide

example : toNat (generalizedFma (fun a b => koggeStone a b false) [(ofNat 3 7, ofNat 3 7)] [ofNat 4 15]) = 64 := by decide
example : toNat (carrysaveAdder (fun a b => rippleAdd a b false) (ofNat 3 7) (ofNat 1 1) (ofNat 2 3)) = 11 := by decide

example : toNat (treeMultiplier (fun a b => koggeStone a b false) (ofNat 4 13) (ofNat 3 7)) = 91 := by decide
example : toNat (fastGroupAdder (fun a b => rippleAdd a b false) [ofNat 3 7, ofNat 2 3, ofNat 3 5, ofNat 1 1, ofNat 3 6]) = 22 := by decide

end Pyrtl.C13
