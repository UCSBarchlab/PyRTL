import Proofs.Lemmas.Synth
import Proofs.Lemmas.Mult
import Model.Core.Spec
/-!
# C03 — synthesize() preserves behaviour

`Synth.basic*` are the impl models of the gate-level generators `synthesize` substitutes for the
word-level primitives (`corecircuits._basic_*`); bit vectors are LSB-first `List Bool`.
Each theorem: for **every** operand length and value the generated gates compute the documented
primitive (`Spec.comb`) at the primitive's natural result width.
The tie of these functions to the real generators is the exhaustive truth-table comparison made by
every check run (tools/checks/c03.py).
-/
namespace Pyrtl.C03
open Pyrtl.Synth

/-- `+` : `len+1` result bits hold the exact sum. -/
theorem basicAdd_eq_spec (a b : List Bool) (h : a.length = b.length) :
    toNat (basicAdd a b) = Spec.comb .add [(a.length, toNat a), (b.length, toNat b)] (a.length + 1) ∧
    (basicAdd a b).length = a.length + 1 := by
  refine ⟨?_, basicAdd_length a b h⟩
  have ha := toNat_lt a
  have hb := toNat_lt_of_length_le h.ge
  rw [basicAdd_spec a b h]
  exact (Nat.mod_eq_of_lt (by rw [Nat.pow_succ]; omega)).symm

/-- `-` : `len+1` result bits hold the difference modulo `2^(len+1)` (two's complement); the top bit has to
    be the inverted carry of `a + ~b + 1` for that.
    (False of the tree as first given, where the carry was not inverted; repaired by the `fix:` commit
    c885bd7 recorded in known_findings.json.) -/
theorem basicSub_eq_spec (a b : List Bool) (h : a.length = b.length) :
    toNat (basicSub a b) = Spec.comb .sub [(a.length, toNat a), (b.length, toNat b)] (a.length + 1) := by
  rw [Spec.comb, ← basicSub_spec a b h, Int.toNat_natCast]

theorem basicEq_eq_spec (a b : List Bool) (h : a.length = b.length) :
    toNat (basicEq a b) = Spec.comb .eq [(a.length, toNat a), (b.length, toNat b)] 1 :=
  (basicEq_spec a b h).trans (Nat.mod_eq_of_lt (by split <;> decide)).symm

theorem basicLt_eq_spec (a b : List Bool) (h : a.length = b.length) :
    toNat (basicLt a b) = Spec.comb .lt [(a.length, toNat a), (b.length, toNat b)] 1 :=
  (basicLt_spec a b h).trans (Nat.mod_eq_of_lt (by split <;> decide)).symm

theorem basicGt_eq_spec (a b : List Bool) (h : a.length = b.length) :
    toNat (basicGt a b) = Spec.comb .gt [(a.length, toNat a), (b.length, toNat b)] 1 :=
  basicLt_eq_spec b a h.symm

/-- `x` : select 0 passes the first data input, select 1 the second. -/
theorem basicSelect_eq_spec (s : Bool) (a b : List Bool) (h : a.length = b.length) :
    toNat (basicSelect s a b)
      = Spec.comb .mux [(1, b2n s), (a.length, toNat a), (b.length, toNat b)] a.length := by
  rw [basicSelect_spec s a b h]
  cases s
  · exact (Nat.mod_eq_of_lt (toNat_lt a)).symm
  · exact (Nat.mod_eq_of_lt (toNat_lt_of_length_le h.ge)).symm

-- non-vacuity; 0 - 0 at width 2 is 0 (with the carry itself on top it would be 4)
example : toNat (basicSub [false, false] [false, false]) = 0 := by decide
example : toNat (basicSub [true, false] [false, true]) = 7 := by decide   -- 1 - 2 = -1 = 7 mod 8

/-- the reduction loop of `_basic_mult` reached columns of height ≤ 2 within the model's fuel (the
    Python `while` simply runs until it does; column heights depend only on the operand lengths) -/
def multDone (A B : List Bool) : Bool :=
  let AB := if B.length == 1 then (B, A) else (A, B)
  AB.1.length == 1 ||
    allLe2 (reduceLoop (4 * (AB.1.length + AB.2.length) + 8) (partials AB.1 AB.2))

/-- the reduction loop always finishes within the model's fuel: every column of the partial-product
    array has at most `len(A)` bits and each pass lowers the tallest column while it exceeds 2 -/
theorem multDone_always (A B : List Bool) : multDone A B = true :=
  Bool.or_eq_true_iff.mpr (.inr (mult_loop_done _ _))

/-- `*` : **for every operand length and value** the synthesized multiplier (the AND shortcut for a one-bit
    operand; otherwise partial products, full/half-adder reduction passes until every column has at most two
    bits, final ripple addition) holds the exact product in `len(A)+len(B)` bits. -/
theorem basicMult_eq_spec (A B : List Bool) (hA : A ≠ []) (hB : B ≠ []) :
    toNat (basicMult A B)
      = Spec.comb .mul [(A.length, toNat A), (B.length, toNat B)] (A.length + B.length) := by
  refine Eq.trans ?_ (Nat.mod_eq_of_lt (toNat_mul_lt A B)).symm
  unfold basicMult
  by_cases hb1 : B.length = 1
  · simp only [hb1, beq_self_eq_true, ↓reduceIte, trivialMult_val B A hb1, Nat.mul_comm]
  · by_cases ha1 : A.length = 1
    · simp only [beq_iff_eq, hb1, ha1, ↓reduceIte, trivialMult_val A B ha1]
    · simp only [beq_iff_eq, hb1, ha1, ↓reduceIte]
      exact mult_general (mult_loop_done A B)

-- a concrete instance: 5 x 6 = 30 in 6 bits
example : toNat (basicMult [true, false, true] [false, true, true]) = 30 := by decide
end Pyrtl.C03
