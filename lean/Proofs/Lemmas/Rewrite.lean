import Proofs.Lemmas.EvalOrder
/-!
# Local rewrites of a netlist

`flatMap_preserves`: replace every net of a schedule by a "gadget", a list of nets that leaves in the net's destination
the value the net computes and otherwise writes only wires outside a kept set `K`; then every wire of `K` has the value
it had.  The lowering passes (C09) are instances.  `rewrite_preserves` is the case of one net replaced in place, with
`K` the wires that are not fresh.
-/
namespace Pyrtl.Rewrite

theorem flatMap_preserves {f f' : Net → List Nat → Nat} {K : Nat → Prop} (ex : Net → List Net)
    {ns : List Net}
    (hargs : ∀ n ∈ ns, ∀ a ∈ n.args, K a)
    (hg : ∀ n ∈ ns, ∀ e' : Env, (∀ w, K w → w ≠ n.dest → evalSeq f' (ex n) e' w = e' w) ∧
                      evalSeq f' (ex n) e' n.dest = f n (n.args.map e'))
    (e1 e2 : Env) (h : ∀ w, K w → e1 w = e2 w) :
    ∀ w, K w → evalSeq f' (ns.flatMap ex) e1 w = evalSeq f ns e2 w := by
  induction ns generalizing e1 e2 with
  | nil => exact h
  | cons n ns ih =>
    obtain ⟨hn, hargs⟩ := List.forall_mem_cons.mp hargs
    obtain ⟨hgn, hg⟩ := List.forall_mem_cons.mp hg
    rw [List.flatMap_cons, evalSeq_append, evalSeq]
    apply ih hargs hg
    intro w hw
    obtain ⟨h1, h2⟩ := hgn e1
    by_cases hwd : w = n.dest
    · rw [hwd, h2, upd_eq, List.map_congr_left (fun a ha => h a (hn a ha))]
    · rw [h1 w hw hwd, upd_ne hwd, h w hw]

theorem rewrite_preserves {f : Net → List Nat → Nat} {F : Nat → Prop} {pre post gadget : List Net} {n : Net}
    {e : Env}
    (hg : ∀ e' : Env, (∀ w, ¬ F w → w ≠ n.dest → evalSeq f gadget e' w = e' w) ∧
                      evalSeq f gadget e' n.dest = f n (n.args.map e'))
    (hpost : ∀ m ∈ post, ∀ a ∈ m.args, ¬ F a) :
    ∀ w, ¬ F w → evalSeq f (pre ++ gadget ++ post) e w = evalSeq f (pre ++ n :: post) e w := by
  rw [List.append_assoc, evalSeq_append, evalSeq_append, evalSeq_append, evalSeq]
  -- the nets of `post` stand for themselves
  have := flatMap_preserves (f := f) (fun m => [m]) hpost
    (fun m _ e' => ⟨fun w _ hwd => upd_ne hwd, upd_eq⟩)
  rw [List.flatMap_singleton'] at this
  apply this
  intro v hv
  obtain ⟨h1, h2⟩ := hg (evalSeq f pre e)
  by_cases hvd : v = n.dest
  · rw [hvd, h2, upd_eq]
  · rw [h1 v hv hvd, upd_ne hvd]

end Pyrtl.Rewrite
