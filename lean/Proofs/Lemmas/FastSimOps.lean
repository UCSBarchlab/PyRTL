import Model.Sim.FastSim
import Proofs.Lemmas.SpecVal
/-! The mask decision of `FastSimulation`'s statement template and its `c` expression. -/
namespace Pyrtl.FastSim

theorem eqW_neg (dw : Nat) : eqW dw (-1) = false := by
  simp only [eqW, decide_eq_false_iff_not]; omega

/-- `res = mask & (expr)`, the mask dropped when the destination has the width `v` that `_no_mask_bitwidth` gives:
    right whenever the value fits that width -/
theorem maskUnless {n dw v : Nat} (h : n < 2 ^ v) :
    (if eqW dw v = true then (n : Int) else pyAnd (mask dw) n) = ((n % 2 ^ dw : Nat) : Int) := by
  split
  · obtain rfl : dw = v := Int.natCast_inj.mp (of_decide_eq_true ‹_›)
    rw [Nat.mod_eq_of_lt h]
  · exact mask_and_nat n dw

theorem widthSum_cast (l : List (Nat × Nat)) :
    widthSum (l.map fun p => (p.1, (p.2 : Int))) = (l.map (·.1)).sum := by
  simp [widthSum, List.map_map, Function.comp_def]

theorem shiftL_nat {v S : Nat} : shiftL (v : Int) S = ((v * 2 ^ S : Nat) : Int) := by
  unfold shiftL
  split
  · rename_i h; subst h; simp
  · exact pyShl_nat v S

theorem or_shift (x y S : Nat) : (x * 2 ^ S) ||| (y * 2 ^ S) = (x ||| y) * 2 ^ S := by
  have := @Nat.shiftLeft_or_distrib S x y
  simp only [Nat.shiftLeft_eq] at this
  exact this.symm

theorem concatExpr_eq (rest : List (Nat × Nat)) (A : Nat) (hr : ∀ p ∈ rest, p.2 < 2 ^ p.1) :
    concatExpr (rest.map fun p => (p.1, (p.2 : Int))) ((A * 2 ^ (rest.map (·.1)).sum : Nat) : Int)
      = ((Spec.concatVal rest A : Nat) : Int) := by
  induction rest generalizing A with
  | nil => simp [concatExpr, Spec.concatVal]
  | cons p r ih =>
    obtain ⟨hp, hr⟩ := List.forall_mem_cons.mp hr
    simp only [List.map_cons, concatExpr, Spec.concatVal, List.sum_cons]
    rw [widthSum_cast, shiftL_nat, pyOr_nat, Nat.pow_add, ← Nat.mul_assoc, or_shift, shl_or_eq_add hp]
    exact ih _ hr

theorem concatStart_eq (l : List (Nat × Nat)) (hr : ∀ p ∈ l, p.2 < 2 ^ p.1) :
    concatStart (l.map fun p => (p.1, (p.2 : Int))) = ((Spec.concatVal l 0 : Nat) : Int) := by
  cases l with
  | nil => simp [concatStart, Spec.concatVal]
  | cons p r =>
    simp only [List.map_cons, concatStart, Spec.concatVal]
    rw [widthSum_cast, shiftL_nat]
    simpa using concatExpr_eq r p.2 (List.forall_mem_cons.mp hr).2

end Pyrtl.FastSim
