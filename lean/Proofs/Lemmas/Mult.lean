import Proofs.Lemmas.Synth
import Mathlib.Tactic.Ring
/-! The column-compression multiplier `_basic_mult` (Wallace-style), every length.
Value: the array of partial products has the weighted column sum `colsVal` = `toNat A * toNat B` (`partials_val`); a
reduction pass keeps `colsVal` modulo `2^len`, since it drops the carry out of the last column (`reducePass_val`); the
two rows of an array of height ≤ 2 add up to it (`rows_val`).
Termination: a pass takes columns of at most `M ≥ 3` bits to columns of at most `M - 1` (`reducePass_heights`), and
the partial products start with at most `len A` (`partials_heights`). -/
namespace Pyrtl.Synth

def colVal : List Bool → Nat
  | [] => 0
  | b :: bs => b2n b + colVal bs

def colsVal : List (List Bool) → Nat
  | [] => 0
  | c :: cs => colVal c + 2 * colsVal cs

theorem colVal_append (a b : List Bool) : colVal (a ++ b) = colVal a + colVal b := by
  induction a with
  | nil => simp [colVal]
  | cons x xs ih => simp only [List.cons_append, colVal, ih]; omega

theorem colsVal_replicate (n : Nat) : colsVal (List.replicate n []) = 0 := by
  induction n with
  | zero => rfl
  | succ n ih => simp [List.replicate_succ, colsVal, colVal, ih]

theorem colPush_length (cols : List (List Bool)) (i : Nat) (x : Bool) :
    (colPush cols i x).length = cols.length := by
  simp [colPush]

theorem colPush_val (cols : List (List Bool)) (i : Nat) (x : Bool) (h : i < cols.length) :
    colsVal (colPush cols i x) = colsVal cols + 2 ^ i * b2n x := by
  induction cols generalizing i with
  | nil => simp at h
  | cons c cs ih =>
    cases i with
    | zero => simp only [colPush, List.modify_zero_cons, colsVal, colVal_append, colVal]; omega
    | succ i =>
      have := ih i (Nat.lt_of_succ_lt_succ h)
      simp only [colPush] at this ⊢
      simp only [List.modify_succ_cons, colsVal, this, Nat.pow_succ]
      ring

def pushRow (B : List Bool) (cols : List (List Bool)) (ai : Bool × Nat) : List (List Bool) :=
  (B.zipIdx).foldl (fun cols (bj : Bool × Nat) => colPush cols (ai.2 + bj.2) (ai.1 && bj.1)) cols

theorem pushRow_cons (b : Bool) (bs : List Bool) (cols : List (List Bool)) (a : Bool) (i : Nat) :
    pushRow (b :: bs) cols (a, i) = pushRow bs (colPush cols i (a && b)) (a, i + 1) := by
  simp only [pushRow, List.zipIdx_cons, List.foldl_cons, List.zipIdx_succ, List.foldl_map, Nat.add_right_comm i 1]
  rfl

theorem pushRow_val (B : List Bool) (cols : List (List Bool)) (a : Bool) (i : Nat)
    (h : i + B.length ≤ cols.length) :
    (pushRow B cols (a, i)).length = cols.length ∧
    colsVal (pushRow B cols (a, i)) = colsVal cols + 2 ^ i * (b2n a * toNat B) := by
  induction B generalizing i cols with
  | nil => simp [pushRow, toNat]
  | cons b bs ih =>
    rw [List.length_cons] at h
    obtain ⟨hl, hv⟩ := ih (colPush cols i (a && b)) (i + 1) (by rw [colPush_length]; omega)
    rw [colPush_length] at hl
    rw [pushRow_cons]
    refine ⟨hl, ?_⟩
    rw [hv, colPush_val cols i (a && b) (by omega), toNat, b2n_and, Nat.pow_succ]
    ring

theorem outer_val (A B : List Bool) (k : Nat) (cols : List (List Bool))
    (h : k + A.length + B.length ≤ cols.length + 1) :
    ((A.zipIdx k).foldl (pushRow B) cols).length = cols.length ∧
    colsVal ((A.zipIdx k).foldl (pushRow B) cols) = colsVal cols + 2 ^ k * (toNat A * toNat B) := by
  induction A generalizing k cols with
  | nil => simp [toNat]
  | cons a as ih =>
    rw [List.length_cons] at h
    obtain ⟨hl1, hv1⟩ := pushRow_val B cols a k (by omega)
    obtain ⟨hl2, hv2⟩ := ih (k + 1) (pushRow B cols (a, k)) (by rw [hl1]; omega)
    refine ⟨hl2.trans hl1, ?_⟩
    rw [List.zipIdx_cons, List.foldl_cons, hv2, hv1, toNat, Nat.pow_succ]
    ring

theorem partials_eq (A B : List Bool) :
    partials A B = (A.zipIdx).foldl (pushRow B) (List.replicate (A.length + B.length) []) := rfl

theorem partials_val (A B : List Bool) :
    (partials A B).length = A.length + B.length ∧ colsVal (partials A B) = toNat A * toNat B := by
  have := outer_val A B 0 (List.replicate (A.length + B.length) []) (by simp)
  rw [partials_eq]
  simp only [List.length_replicate, colsVal_replicate, Nat.pow_zero, Nat.one_mul, Nat.zero_add] at this
  exact this

theorem half_adder_val (a b : Bool) : b2n (xor a b) + 2 * b2n (a && b) = b2n a + b2n b := by
  cases a <;> cases b <;> rfl

theorem reduceCol_val (fuel : Nat) (col : List Bool) :
    colVal (reduceCol fuel col).1 + 2 * colVal (reduceCol fuel col).2 = colVal col := by
  fun_induction reduceCol fuel col with
  | case1 fuel a b c rest keep carry hrec ih =>
    have : _ = b2n a + b2n b + b2n c := oneBitAdd_spec a b c
    simp only [oneBitAdd] at this
    simp only [hrec] at ih
    simp only [colVal]
    omega
  | case2 x a b =>
    have := half_adder_val a b
    simp only [colVal]
    omega
  | case3 x l h1 h2 => simp [colVal]

/-- the fold of `reducePass`, written recursively: new columns and the carry out of the last one -/
def passRec : List (List Bool) → List Bool → List (List Bool) × List Bool
  | [], cin => ([], cin)
  | col :: rest, cin =>
    let kc := reduceCol col.length col
    let r := passRec rest kc.2
    ((cin ++ kc.1) :: r.1, r.2)

theorem passRec_val (cols : List (List Bool)) (cin : List Bool) :
    colsVal (passRec cols cin).1 + 2 ^ cols.length * colVal (passRec cols cin).2
      = colVal cin + colsVal cols ∧ (passRec cols cin).1.length = cols.length := by
  induction cols generalizing cin with
  | nil => simp [passRec, colsVal]
  | cons col rest ih =>
    have h1 := reduceCol_val col.length col
    obtain ⟨h2, h3⟩ := ih (reduceCol col.length col).2
    simp only [passRec, colsVal, colVal_append, List.length_cons, Nat.pow_succ', Nat.mul_assoc, h3]
    exact ⟨by omega, trivial⟩

theorem foldl_passRec (cols done : List (List Bool)) (cin : List Bool) :
    cols.foldl (fun (acc : List (List Bool) × List Bool) (col : List Bool) =>
        let (done, carryIn) := acc
        let (keep, carryOut) := reduceCol col.length col
        (done ++ [carryIn ++ keep], carryOut)) (done, cin)
      = (done ++ (passRec cols cin).1, (passRec cols cin).2) := by
  induction cols generalizing done cin with
  | nil => simp [passRec]
  | cons col rest ih =>
    simp only [List.foldl_cons, passRec]
    rw [ih]
    simp

theorem reducePass_eq (cols : List (List Bool)) : reducePass cols = (passRec cols []).1 := by
  unfold reducePass
  simp only []
  rw [foldl_passRec cols [] []]
  simp only [List.nil_append]
  rw [List.take_of_length_le (by rw [(passRec_val cols []).2])]

theorem reducePass_val (cols : List (List Bool)) :
    (reducePass cols).length = cols.length ∧
    colsVal (reducePass cols) % 2 ^ cols.length = colsVal cols % 2 ^ cols.length := by
  rw [reducePass_eq]
  obtain ⟨hv, hl⟩ := passRec_val cols []
  refine ⟨hl, ?_⟩
  simp only [colVal, Nat.zero_add] at hv
  rw [← hv, Nat.add_mul_mod_self_left]

theorem reduceLoop_val (fuel : Nat) (cols : List (List Bool)) :
    colsVal (reduceLoop fuel cols) % 2 ^ cols.length = colsVal cols % 2 ^ cols.length := by
  fun_induction reduceLoop fuel cols with
  | case1 cols => rfl
  | case2 fuel cols h => rfl
  | case3 fuel cols h ih =>
    obtain ⟨hl, hv⟩ := reducePass_val cols
    rw [hl] at ih
    exact ih.trans hv

theorem allLe2_cons (c : List Bool) (cs : List (List Bool)) :
    allLe2 (c :: cs) = true ↔ c.length ≤ 2 ∧ allLe2 cs = true := by
  simp only [allLe2, List.all_cons, Bool.and_eq_true, decide_eq_true_eq]

theorem rows_val (cols : List (List Bool)) (h : allLe2 cols = true) :
    toNat (cols.map (·.getD 0 false)) + toNat (cols.map (·.getD 1 false)) = colsVal cols := by
  induction cols with
  | nil => rfl
  | cons c cs ih =>
    obtain ⟨hc, hcs⟩ := (allLe2_cons c cs).1 h
    have : b2n (c.getD 0 false) + b2n (c.getD 1 false) = colVal c := by
      match c, hc with
      | [], _ | [x], _ | [x, y], _ => rfl
    have := ih hcs
    simp only [List.map_cons, toNat, colsVal]
    omega

theorem toNat_map_and (a : Bool) (B : List Bool) : toNat (B.map (a && ·)) = b2n a * toNat B := by
  induction B with
  | nil => rfl
  | cons b bs ih => rw [List.map_cons, toNat, toNat, ih, b2n_and, Nat.mul_add, Nat.mul_left_comm]

theorem toNat_single (A : List Bool) (h : A.length = 1) : toNat A = b2n (A.headD false) := by
  match A, h with
  | [a], _ => rfl

/-- the multipliers' shortcut for a one-bit operand -/
theorem trivialMult_val (A B : List Bool) (h : A.length = 1) :
    toNat (B.map (A.headD false && ·) ++ [false]) = toNat A * toNat B := by
  simp [toNat_append, toNat_map_and, toNat_single A h, toNat, b2n]

theorem mult_general {A B : List Bool} {fuel : Nat}
    (hdone : allLe2 (reduceLoop fuel (partials A B)) = true) :
    let cols := reduceLoop fuel (partials A B)
    toNat ((basicAdd (cols.map (·.getD 0 false)) (cols.map (·.getD 1 false))).take (A.length + B.length))
      = toNat A * toNat B := by
  intro cols
  obtain ⟨hpl, hpv⟩ := partials_val A B
  have hv := reduceLoop_val fuel (partials A B)
  rw [toNat_take, basicAdd_spec _ _ (by simp only [List.length_map]), rows_val cols hdone]
  rw [hpl] at hv
  show colsVal (reduceLoop fuel (partials A B)) % 2 ^ (A.length + B.length) = _
  rw [hv, hpv, Nat.mod_eq_of_lt (toNat_mul_lt A B)]

def AllLe (M : Nat) (cols : List (List Bool)) : Prop := ∀ c ∈ cols, c.length ≤ M

theorem AllLe_cons {M : Nat} {c : List Bool} {cs : List (List Bool)} :
    AllLe M (c :: cs) ↔ c.length ≤ M ∧ AllLe M cs :=
  List.forall_mem_cons

theorem AllLe_mono {M N : Nat} {cols : List (List Bool)} (h : AllLe M cols) (hMN : M ≤ N) : AllLe N cols :=
  fun c hc => Nat.le_trans (h c hc) hMN

theorem reduceCol_len (fuel : Nat) (col : List Bool) (h : col.length ≤ fuel) :
    (reduceCol fuel col).1.length = (col.length + 2) / 3 ∧
    (reduceCol fuel col).2.length = (col.length + 1) / 3 := by
  induction fuel generalizing col with
  | zero =>
    obtain rfl := List.eq_nil_of_length_eq_zero (Nat.le_zero.1 h)
    exact ⟨rfl, rfl⟩
  | succ fuel ih =>
    match col, h with
    | [], _ | [a], _ | [a, b], _ => simp [reduceCol]
    | a :: b :: c :: rest, h =>
      obtain ⟨h1, h2⟩ := ih rest (by simp only [List.length_cons] at h; omega)
      simp only [reduceCol, List.length_cons, h1, h2]
      exact ⟨(Nat.add_div_right _ (by decide)).symm, (Nat.add_div_right _ (by decide)).symm⟩

theorem passRec_heights {M : Nat} {cols : List (List Bool)} (cin : List Bool)
    (hc : AllLe M cols) (hcin : cin.length ≤ (M + 1) / 3) :
    AllLe ((M + 1) / 3 + (M + 2) / 3) (passRec cols cin).1 := by
  induction cols generalizing cin with
  | nil => exact fun c hc' => nomatch hc'
  | cons col rest ih =>
    obtain ⟨hcol, hrest⟩ := AllLe_cons.1 hc
    obtain ⟨hk, hcarry⟩ := reduceCol_len col.length col (Nat.le_refl _)
    refine AllLe_cons.2 ⟨?_, ih _ hrest ?_⟩
    · rw [List.length_append, hk]
      omega
    · rw [hcarry]
      exact Nat.div_le_div_right (Nat.add_le_add_right hcol 1)

/-- a column of at most `M` bits keeps `⌈M/3⌉` of them and receives `⌊(M+1)/3⌋` carries: fewer than `M` from 3 on -/
theorem reducePass_heights {M : Nat} {cols : List (List Bool)} (hc : AllLe M cols) (hM : 3 ≤ M) :
    AllLe (M - 1) (reducePass cols) := by
  rw [reducePass_eq]
  exact AllLe_mono (passRec_heights [] hc (Nat.zero_le _)) (by omega)

theorem allLe2_of_AllLe {M : Nat} {cols : List (List Bool)} (h : AllLe M cols) (hM : M ≤ 2) :
    allLe2 cols = true := by
  simp only [allLe2, List.all_eq_true, decide_eq_true_eq]
  exact AllLe_mono h hM

theorem reduceLoop_done {fuel M : Nat} {cols : List (List Bool)} (hc : AllLe M cols) (hf : M ≤ fuel) :
    allLe2 (reduceLoop fuel cols) = true := by
  fun_induction reduceLoop fuel cols generalizing M with
  | case1 cols => exact allLe2_of_AllLe hc (by omega)
  | case2 fuel cols h => exact h
  | case3 fuel cols hnot ih =>
    by_cases hM : M ≤ 2
    · exact absurd (allLe2_of_AllLe hc hM) hnot
    · exact ih (reducePass_heights hc (by omega)) (by omega)

def height (cols : List (List Bool)) (c : Nat) : Nat := ((cols[c]?).getD []).length

theorem colPush_height (cols : List (List Bool)) (i : Nat) (x : Bool) (c : Nat) :
    height (colPush cols i x) c ≤ height cols c + (if i = c then 1 else 0) := by
  unfold height colPush
  rw [List.getElem?_modify]
  split
  · cases cols[c]? <;> simp
  · simp

theorem pushRow_height (B : List Bool) (cols : List (List Bool)) (a : Bool) (i c : Nat) :
    height (pushRow B cols (a, i)) c ≤ height cols c + (if i ≤ c then 1 else 0) := by
  induction B generalizing i cols with
  | nil => exact Nat.le_add_right _ _
  | cons b bs ih =>
    have h1 := colPush_height cols i (a && b) c
    have h2 := ih (colPush cols i (a && b)) (i + 1)
    rw [pushRow_cons]
    split at h1 <;> split at h2 <;> split <;> omega

theorem outer_height (A B : List Bool) (k : Nat) (cols : List (List Bool)) (c : Nat) :
    height ((A.zipIdx k).foldl (pushRow B) cols) c ≤ height cols c + A.length := by
  induction A generalizing k cols with
  | nil => simp
  | cons a as ih =>
    have h1 := pushRow_height B cols a k c
    have h2 := ih (k + 1) (pushRow B cols (a, k))
    rw [List.zipIdx_cons, List.foldl_cons, List.length_cons]
    split at h1 <;> omega

theorem partials_heights (A B : List Bool) : AllLe A.length (partials A B) := by
  intro col hcol
  obtain ⟨c, hc⟩ := List.mem_iff_getElem?.1 hcol
  have := outer_height A B 0 (List.replicate (A.length + B.length) []) c
  rw [← partials_eq] at this
  have h0 : height (List.replicate (A.length + B.length) ([] : List Bool)) c = 0 := by
    unfold height
    by_cases hlt : c < A.length + B.length <;> simp [hlt]
  have hcol : height (partials A B) c = col.length := by unfold height; rw [hc]; rfl
  omega

/-- the model's fuel is always enough: the loop of `_basic_mult` ends with columns of height ≤ 2 -/
theorem mult_loop_done (A B : List Bool) :
    allLe2 (reduceLoop (4 * (A.length + B.length) + 8) (partials A B)) = true :=
  reduceLoop_done (partials_heights A B) (by omega)

end Pyrtl.Synth
