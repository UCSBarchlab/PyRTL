import Model.Sim.PySim
import Proofs.Lemmas.PyInt
/-! `_sanitize`, the Python functions of `simple_func` on casts, and the `c` and `s` loops of `pyrtl.Simulation`. -/
namespace Pyrtl.PySim
open Pyrtl.Gen.SimpleFunc

theorem san_nat {a dw : Nat} : (sanitize (a : Int) (mask dw)).toNat = a % 2 ^ dw := by
  rw [sanitize, pyAnd_mask_nonneg, Int.toNat_natCast]

theorem exec_eq (op : Op) (args : List (Nat × Int)) (dw : Nat) :
    exec op args dw = (rawExec op args % ((2 ^ dw : Nat) : Int)).toNat := by
  unfold exec sanitize; rw [pyAnd_mask]

theorem ofBool_nat (p : Prop) [Decidable p] : pyOfBool (decide p) = ((if p then 1 else 0 : Nat) : Int) := by
  by_cases h : p <;> simp [pyOfBool, h]

theorem mux_nat (s f t : Nat) :
    (if decide ((s : Int) = 0) = true then (f : Int) else (t : Int)) = ((if s = 0 then f else t : Nat) : Int) := by
  by_cases h : s = 0
  · simp [h]
  · simp [h, Int.natCast_eq_zero]

theorem concatLoop_eq (l : List (Nat × Nat)) (r : Nat) (hr : ∀ p ∈ l, p.2 < 2 ^ p.1) :
    concatLoop (l.map fun p => (p.1, (p.2 : Int))) (r : Int) = ((Spec.concatVal l r : Nat) : Int) := by
  induction l generalizing r with
  | nil => rfl
  | cons p rest ih =>
    obtain ⟨hp, hr⟩ := List.forall_mem_cons.mp hr
    simp only [List.map_cons, concatLoop, Spec.concatVal]
    rw [pyShl_nat, pyOr_nat, shl_or_eq_add hp]
    exact ih _ hr

theorem selectLoop_foldl (l : List Nat) (src r : Int) :
    selectLoop l src r = l.foldl (fun (r : Int) (b : Nat) => pyOr (pyShl r 1) (pyAnd 1 (pyShr src (b : Int)))) r := by
  induction l generalizing r with
  | nil => rfl
  | cons b rest ih => simp only [selectLoop, List.foldl_cons]; exact ih _

theorem select_step {r src b : Nat} :
    pyOr (pyShl (r : Int) 1) (pyAnd 1 (pyShr (src : Int) (b : Int)))
      = ((Spec.bit src b + 2 * r : Nat) : Int) := by
  rw [← Int.natCast_one, pyShl_nat, pyShr_nat, pyAnd_nat, pyOr_nat, Nat.one_and_eq_mod_two,
    shl_or_eq_add (w := 1) (Nat.mod_lt _ (by decide)), Spec.bit, Nat.pow_one, Nat.mul_comm, Nat.add_comm]

theorem selectLoop_reverse (idx : List Nat) (src : Nat) :
    selectLoop idx.reverse (src : Int) 0 = ((Spec.selectVal idx src : Nat) : Int) := by
  rw [selectLoop_foldl, List.foldl_reverse]
  induction idx with
  | nil => rfl
  | cons i rest ih =>
    simp only [List.foldr_cons, Spec.selectVal]
    rw [ih]; exact select_step

end Pyrtl.PySim
