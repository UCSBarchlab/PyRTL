import Model.Lib.Wallace
import Proofs.Lemmas.Mult
/-! The pieces of `wallace_reducer` (padding, reduction to height 2, `_sparse_adder`, the cut to the result
width) against the weighted column sum `Synth.colsVal`, and what its callers need to build their column
arrays and to bound their sums. -/
namespace Pyrtl.Adders
open Pyrtl.Synth

theorem padCols_val (cols : List (List Bool)) (W : Nat) : colsVal (padCols cols W) = colsVal cols := by
  unfold padCols
  generalize W - cols.length = k
  induction cols with
  | nil => simpa [colsVal] using colsVal_replicate k
  | cons c cs ih => simp [colsVal, ih]

theorem padCols_length {cols : List (List Bool)} {W : Nat} (h : cols.length ≤ W) :
    (padCols cols W).length = W := by
  rw [padCols, List.length_append, List.length_replicate, Nat.add_sub_cancel' h]

theorem le_maxList_map {ι : Type} (f : ι → Nat) (xs : List ι) : ∀ x ∈ xs, f x ≤ maxList (xs.map f) := by
  induction xs with
  | nil => simp
  | cons y ys ih =>
    intro x hx
    rcases List.mem_cons.1 hx with rfl | hx
    · exact Nat.le_max_left _ _
    · exact Nat.le_trans (ih x hx) (Nat.le_max_right _ _)

theorem maxLen_eq (ws : List (List Bool)) : maxLen ws = maxList (ws.map List.length) := by
  induction ws <;> simp [maxLen, maxList, *]

theorem maxHeight_eq (cols : List (List Bool)) : maxHeight cols = maxList (cols.map List.length) := by
  induction cols <;> simp [maxHeight, maxList, *]

theorem le_maxLen (ws : List (List Bool)) : ∀ w ∈ ws, w.length ≤ maxLen ws :=
  maxLen_eq ws ▸ le_maxList_map List.length ws

theorem AllLe_maxHeight (cols : List (List Bool)) : AllLe (maxHeight cols) cols :=
  maxHeight_eq cols ▸ le_maxList_map List.length cols

theorem AllLe_pad {M : Nat} {cols : List (List Bool)} (W : Nat) (h : AllLe M cols) : AllLe M (padCols cols W) := by
  intro c hc
  simp only [padCols, List.mem_append, List.mem_replicate] at hc
  rcases hc with hc | ⟨_, rfl⟩
  · exact h c hc
  · simp

/-- `red` is the array that `wallace_reducer` hands to `_sparse_adder` -/
theorem reduced_val (cols : List (List Bool)) (W : Nat) (hW : cols.length ≤ W) :
    let red := if allLe2 cols then cols else reduceLoop (maxHeight cols + 1) (padCols cols W)
    allLe2 red = true ∧ colsVal red % 2 ^ W = colsVal cols % 2 ^ W := by
  intro red
  simp only [red]
  split
  · exact ⟨‹_›, rfl⟩
  · have := reduceLoop_val (maxHeight cols + 1) (padCols cols W)
    rw [padCols_length hW, padCols_val] at this
    exact ⟨reduceLoop_done (AllLe_pad W (AllLe_maxHeight cols)) (Nat.le_succ _), this⟩

theorem sparseAdd_val {adder : List Bool → List Bool → List Bool}
    (hadd : ∀ a b, toNat (adder a b) = toNat a + toNat b) {cols : List (List Bool)}
    (h : allLe2 cols = true) : toNat (sparseAdd adder cols) = colsVal cols := by
  induction cols with
  | nil => rfl
  | cons c cs ih =>
    unfold sparseAdd
    split
    · rw [hadd, rows_val _ h]
    · rename_i hne
      obtain ⟨hc, hcs⟩ := (allLe2_cons c cs).1 h
      have : b2n (c.getD 0 false) = colVal c := by
        match c, hc, hne with
        | [], _, _ => rfl
        | [x], _, _ => rfl
        | [x, y], _, hne => exact absurd rfl hne
      rw [toNat, colsVal, ih hcs, this]

theorem toNat_cut (r : List Bool) (W : Nat) :
    toNat (if r.length > W then r.take W else r) = toNat r % 2 ^ W := by
  split
  · exact toNat_take r W
  · exact (Nat.mod_eq_of_lt (toNat_lt_of_length_le (by omega))).symm

theorem foldl_colsVal {ι : Type} {push : List (List Bool) → ι → List (List Bool)} {val wd : ι → Nat}
    (hpush : ∀ cols x, wd x ≤ cols.length →
      (push cols x).length = cols.length ∧ colsVal (push cols x) = colsVal cols + val x)
    {xs : List ι} {n : Nat} (h : ∀ x ∈ xs, wd x ≤ n) {cols : List (List Bool)} (hn : cols.length = n) :
    (xs.foldl push cols).length = n ∧ colsVal (xs.foldl push cols) = colsVal cols + (xs.map val).sum := by
  induction xs generalizing cols with
  | nil => simpa using hn
  | cons x xs ih =>
    obtain ⟨hx, h⟩ := List.forall_mem_cons.mp h
    obtain ⟨hl, hv⟩ := hpush cols x (hn ▸ hx)
    obtain ⟨hl', hv'⟩ := ih h (hl.trans hn)
    exact ⟨hl', by rw [List.foldl_cons, hv', hv, List.map_cons, List.sum_cons, Nat.add_assoc]⟩

theorem pushWire_val (cols : List (List Bool)) (w : List Bool) (h : w.length ≤ cols.length) :
    (pushWire cols w).length = cols.length ∧ colsVal (pushWire cols w) = colsVal cols + toNat w := by
  induction cols generalizing w with
  | nil =>
    obtain rfl : w = [] := List.eq_nil_of_length_eq_zero (Nat.le_zero.1 h)
    exact ⟨rfl, rfl⟩
  | cons c cs ih => cases w with
    | nil => exact ⟨rfl, rfl⟩
    | cons b bs =>
      obtain ⟨hl, hv⟩ := ih bs (Nat.le_of_succ_le_succ h)
      simp only [pushWire, colsVal, colVal_append, colVal, hv, toNat, List.length_cons, hl, true_and]
      omega

theorem pushProd_val (cols : List (List Bool)) (ab : List Bool × List Bool)
    (h : ab.1.length + ab.2.length - 1 ≤ cols.length) :
    (pushProd cols ab).length = cols.length ∧
    colsVal (pushProd cols ab) = colsVal cols + toNat ab.1 * toNat ab.2 := by
  have := outer_val ab.1 ab.2 0 cols (by omega)
  rw [show pushProd cols ab = (ab.1.zipIdx).foldl (pushRow ab.2) cols from rfl]
  simpa using this

theorem sum_map_le {ι : Type} (f g : ι → Nat) (xs : List ι) (h : ∀ x ∈ xs, f x ≤ g x) :
    (xs.map f).sum ≤ (xs.map g).sum := by
  induction xs with
  | nil => simp
  | cons x xs ih =>
    have := h x (by simp)
    have := ih fun y hy => h y (by simp [hy])
    simp only [List.map_cons, List.sum_cons]
    omega

theorem find_range_spec (p : Nat → Prop) [DecidablePred p] (n : Nat) (hn : p n) :
    p (((List.range (n + 1)).find? fun k => decide (p k)).getD n) := by
  cases h : (List.range (n + 1)).find? fun k => decide (p k) with
  | none => exact hn
  | some k => exact of_decide_eq_true (List.find?_some h :)

theorem le_two_pow_clog2 (n : Nat) : n ≤ 2 ^ clog2 n :=
  find_range_spec (fun k => n ≤ 2 ^ k) n (Nat.le_of_lt Nat.lt_two_pow_self)

theorem lt_two_pow_bitLength (n : Nat) : n < 2 ^ bitLength n :=
  find_range_spec (fun k => n < 2 ^ k) n Nat.lt_two_pow_self

theorem carrysave_bits {a b c : List Bool} (h1 : a.length = b.length) (h2 : b.length = c.length) :
    toNat (List.zipWith (fun x yz => xor (xor x yz.1) yz.2) a (List.zip b c)) +
    2 * toNat (List.zipWith (fun x yz => (x || yz.1) && (x || yz.2) && (yz.1 || yz.2)) a (List.zip b c))
      = toNat a + toNat b + toNat c := by
  induction a, b, h1 using rec_eq_length generalizing c with
  | nil => obtain rfl := List.eq_nil_of_length_eq_zero h2.symm; rfl
  | cons x xs y ys hl ih =>
    obtain ⟨z, zs, rfl⟩ := List.exists_cons_of_length_eq_add_one h2.symm
    have := ih (Nat.succ.inj h2)
    have hb : b2n (xor (xor x y) z) + 2 * b2n ((x || y) && (x || z) && (y || z)) = b2n x + b2n y + b2n z := by
      cases x <;> cases y <;> cases z <;> rfl
    simp only [List.zip_cons_cons, List.zipWith_cons_cons, toNat]
    omega

/-- how `carrysave_adder` puts partial sums `ps` and shifted carries `sc` together -/
theorem carrysave_join {adder : List Bool → List Bool → List Bool}
    (hadd : ∀ a b, toNat (adder a b) = toNat a + toNat b) {ps sc : List Bool} {n : Nat}
    (hps : ps.length = n) (hsc : sc.length = n) :
    toNat (if n == 1 then ps ++ sc ++ [false] else ps.take 1 ++ adder (ps.drop 1) sc)
      = toNat ps + 2 * toNat sc := by
  split
  · simp_all [toNat_append, toNat, b2n]
  · rw [toNat_append, hadd, List.length_take, hps, Nat.mul_add, ← Nat.add_assoc]
    rcases Nat.eq_zero_or_pos n with rfl | hpos
    · obtain rfl := List.eq_nil_of_length_eq_zero hps
      obtain rfl := List.eq_nil_of_length_eq_zero hsc
      rfl
    · rw [Nat.min_eq_left hpos, toNat_take_drop ps 1]

end Pyrtl.Adders
