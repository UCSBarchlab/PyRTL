import Model.Sim.CLimb
import Proofs.Lemmas.SpecVal
import Mathlib.Tactic.Ring
import Mathlib.Data.Nat.ModEq
/-!
# Numbers cut into 64-bit limbs

Facts about naturals only (no store, no program): which number limb `n` of a bitwise operation, a complement, a
sum or a selection is, and how wrapped 64-bit additions and subtractions reveal their carry to a comparison.
-/
namespace Pyrtl.CLimb

theorem M_pos : 0 < M := Nat.two_pow_pos 64

theorem one_lt_M : 1 < M := Nat.one_lt_two_pow (by decide)

theorem pow_succ_limb (n : Nat) : 2 ^ (64 * (n + 1)) = 2 ^ (64 * n) * M := by
  rw [M, ← Nat.pow_add]; rfl

theorem M_split {d : Nat} (h : d ≤ 64) : M = 2 ^ d * 2 ^ (64 - d) := by
  rw [M, ← Nat.pow_add, Nat.add_sub_cancel' h]

theorem lt_limbs_iff (w n : Nat) : n < limbs w ↔ 64 * n < w := by unfold limbs; omega

theorem le_of_limbs_le {w n : Nat} (h : limbs w ≤ n) : w ≤ 64 * n :=
  Nat.le_of_not_lt ((lt_limbs_iff w n).not.mp (Nat.not_lt.mpr h))

theorem limbs_pos {w : Nat} (h : 0 < w) : 0 < limbs w := (lt_limbs_iff w 0).mpr h

theorem limbs_add_le (wa wb : Nat) : limbs wa + limbs wb ≤ limbs (wa + wb) + 1 := by
  unfold limbs; omega

theorem limbs_le_add (wa wb : Nat) : limbs (wa + wb) ≤ limbs wa + limbs wb := by
  unfold limbs; omega

theorem lt_pow_limbs {V w n : Nat} (hV : V < 2 ^ w) (h : limbs w ≤ n) : V < 2 ^ (64 * n) :=
  lt_two_pow_of_le hV (le_of_limbs_le h)

def limbOf (V n : Nat) : Nat := V / 2 ^ (64 * n) % M

theorem limbOf_lt (V n : Nat) : limbOf V n < M := Nat.mod_lt _ M_pos

theorem limbOf_zero_of_lt {V w n : Nat} (hV : V < 2 ^ w) (h : w ≤ 64 * n) : limbOf V n = 0 := by
  rw [limbOf, Nat.div_eq_of_lt (lt_two_pow_of_le hV h), Nat.zero_mod]

theorem mod_succ_limb (V n : Nat) : V % 2 ^ (64 * (n + 1)) = V % 2 ^ (64 * n) + 2 ^ (64 * n) * limbOf V n := by
  rw [pow_succ_limb, Nat.mod_mul, limbOf]

theorem limbOf_and (A B n : Nat) : limbOf (A &&& B) n = limbOf A n &&& limbOf B n := by
  unfold limbOf M; rw [Nat.and_div_two_pow, Nat.and_mod_two_pow]
theorem limbOf_or (A B n : Nat) : limbOf (A ||| B) n = limbOf A n ||| limbOf B n := by
  unfold limbOf M; rw [Nat.or_div_two_pow, Nat.or_mod_two_pow]
theorem limbOf_xor (A B n : Nat) : limbOf (A ^^^ B) n = limbOf A n ^^^ limbOf B n := by
  unfold limbOf M; rw [Nat.xor_div_two_pow, Nat.xor_mod_two_pow]

theorem limbOf_compl {X K : Nat} (n : Nat) (hX : X < 2 ^ (64 * K)) (hn : n < K) :
    limbOf (2 ^ (64 * K) - 1 - X) n = M - 1 - limbOf X n := by
  have := compl_field (64 * K) (64 * n) 64 X (Nat.mul_le_mul_left 64 hn)
  rwa [Nat.mod_eq_of_lt hX] at this

theorem sub_emod (A B N w : Nat) (hB : B < N) (hd : 2 ^ w ∣ N) :
    (((A : Int) - (B : Int)) % ((2 ^ w : Nat) : Int)).toNat = (A + (N - 1 - B) + 1) % 2 ^ w := by
  obtain ⟨q, rfl⟩ := hd
  have e : ((A + (2 ^ w * q - 1 - B) + 1 : Nat) : Int) = (A : Int) - B + ((2 ^ w : Nat) : Int) * q := by
    rw [← Int.natCast_mul]; omega
  rw [← natCast_emod_toNat, e, Int.add_mul_emod_self_left]

def carryAt (A B c0 n : Nat) : Nat := (A % 2 ^ (64 * n) + B % 2 ^ (64 * n) + c0) / 2 ^ (64 * n)

theorem carryAt_zero (A B c0 : Nat) : carryAt A B c0 0 = c0 := by simp [carryAt, Nat.mod_one]

theorem carryAt_le_one (A B c0 n : Nat) (h : c0 ≤ 1) : carryAt A B c0 n ≤ 1 := by
  have hP := Nat.two_pow_pos (64 * n)
  have := Nat.mod_lt A hP
  have := Nat.mod_lt B hP
  exact Nat.lt_succ_iff.mp (Nat.div_lt_of_lt_mul (by omega))

/-- the remainder by `M` of this number is limb `n` of the sum (`limbOf_add`), its quotient the next carry
    (`carryAt_succ`) -/
theorem limbOf_add_carryAt (A B c0 n : Nat) :
    limbOf A n + limbOf B n + carryAt A B c0 n
      = (A % 2 ^ (64 * (n + 1)) + B % 2 ^ (64 * (n + 1)) + c0) / 2 ^ (64 * n) := by
  rw [mod_succ_limb, mod_succ_limb, carryAt]
  have hP := Nat.two_pow_pos (64 * n)
  generalize 2 ^ (64 * n) = P at *
  rw [show A % P + P * limbOf A n + (B % P + P * limbOf B n) + c0
      = (A % P + B % P + c0) + P * (limbOf A n + limbOf B n) by ring,
    Nat.add_mul_div_left _ _ hP, Nat.add_comm]

theorem limbOf_add (A B c0 n : Nat) :
    limbOf (A + B + c0) n = (limbOf A n + limbOf B n + carryAt A B c0 n) % M := by
  rw [limbOf_add_carryAt, limbOf, pow_succ_limb, ← Nat.mod_mul_right_div_self, ← Nat.mod_mul_right_div_self]
  exact congrArg (· / _) (((Nat.mod_modEq _ _).symm.add (Nat.mod_modEq _ _).symm).add_right _)

theorem carryAt_succ (A B c0 n : Nat) :
    carryAt A B c0 (n + 1) = (limbOf A n + limbOf B n + carryAt A B c0 n) / M := by
  rw [limbOf_add_carryAt, Nat.div_div_eq_div_mul, ← pow_succ_limb, carryAt]

theorem b2n_ne_zero (p : Bool) : (b2n p != 0) = p := by cases p <;> rfl

theorem bor_b2n {p q : Bool} (h : b2n p + b2n q ≤ 1) : b2n p ||| b2n q = b2n p + b2n q := by
  revert h
  cases p <;> cases q <;> decide

theorem add_wrap {m a b : Nat} (ha : a < m) (hb : b < m) :
    (a + b) % m + b2n ((a + b) % m < a) * m = a + b := by
  rcases Nat.lt_or_ge (a + b) m with h | h
  · rw [Nat.mod_eq_of_lt h, b2n, if_neg (by simp), Nat.zero_mul, Nat.add_zero]
  · have hlt : a + b - m < a := by omega
    rw [Nat.mod_eq_sub_mod h, Nat.mod_eq_of_lt (hlt.trans ha), b2n, if_pos (decide_eq_true hlt), Nat.one_mul,
      Nat.sub_add_cancel h]

theorem add_wrap_right {m a b : Nat} (ha : a < m) (hb : b < m) :
    (a + b) % m + b2n ((a + b) % m < b) * m = a + b := by
  rw [Nat.add_comm a b]; exact add_wrap hb ha

/-- `_build_add`'s carry: `tmp = a + b; d = tmp + c; carry = (tmp < a) | (d < tmp)` -/
theorem add_carry {m a b c : Nat} (ha : a < m) (hb : b < m) (hc : c < m) (h : a + b + c < 2 * m) :
    ((a + b) % m + c) % m = (a + b + c) % m ∧
    (b2n ((a + b) % m < a) ||| b2n (((a + b) % m + c) % m < (a + b) % m)) = (a + b + c) / m := by
  have hm : 0 < m := Nat.zero_lt_of_lt ha
  have h1 := add_wrap ha hb
  have h2 := add_wrap (Nat.mod_lt (a + b) hm) hc
  have hd := Nat.mod_lt ((a + b) % m + c) hm
  generalize (a + b) % m = t at *
  generalize (t + c) % m = d at *
  generalize hc1 : b2n (decide (t < a)) = c1 at *
  generalize hc2 : b2n (decide (d < t)) = c2 at *
  have e : a + b + c = d + m * (c1 + c2) := by rw [Nat.mul_add, Nat.mul_comm m, Nat.mul_comm m]; omega
  have hle : c1 + c2 ≤ 1 := by
    by_contra hgt
    have : m * 2 ≤ m * (c1 + c2) := Nat.mul_le_mul_left _ (by omega)
    omega
  rw [e, Nat.add_mul_mod_self_left, Nat.mod_eq_of_lt hd, Nat.add_mul_div_left _ _ hm,
    Nat.div_eq_of_lt hd, Nat.zero_add, ← hc1, ← hc2]
  exact ⟨rfl, bor_b2n (by rw [hc1, hc2]; exact hle)⟩

theorem sub_add_mod {x y m : Nat} (hx : x < m) (hy : y < m) : ((x + m - y) % m + y) % m = x := by
  rw [Nat.mod_add_mod, Nat.sub_add_cancel (Nat.le_add_left_of_le hy.le), Nat.add_mod_right, Nat.mod_eq_of_lt hx]

/-- `_build_sub`'s borrow: `tmp = a - b; d = tmp - c; carry = (tmp > a) | (d > tmp)`.  The difference is the sum
    `a + ~b + k` with the inverted borrow `k` as carry, and the borrow out is its inverted carry. -/
theorem sub_borrow {m a b c k : Nat} (ha : a < m) (hb : b < m) (hck : c + k = 1) (hm : 1 < m) :
    ((a + m - b % m) % m + m - c % m) % m = (a + (m - 1 - b) + k) % m ∧
    (b2n ((a + m - b % m) % m > a) ||| b2n (((a + m - b % m) % m + m - c % m) % m > (a + m - b % m) % m))
      + (a + (m - 1 - b) + k) / m = 1 := by
  have hcm : c < m := by omega
  have hm0 : 0 < m := Nat.zero_lt_of_lt hm
  rw [Nat.mod_eq_of_lt hb, Nat.mod_eq_of_lt hcm]
  have ht := Nat.mod_lt (a + m - b) hm0
  have hta : ((a + m - b) % m + b) % m = a := sub_add_mod ha hb
  generalize (a + m - b) % m = t at *
  have hd := Nat.mod_lt (t + m - c) hm0
  have hdt : ((t + m - c) % m + c) % m = t := sub_add_mod ht hcm
  generalize (t + m - c) % m = d at *
  -- adding `c` and `b` back is `_build_add` run from `d` to `a`, with the same two comparisons
  obtain ⟨h1, h2⟩ := add_carry hd hcm hb (by omega)
  rw [hdt, hta] at h1 h2
  have hdm := Nat.div_add_mod (d + c + b) m
  rw [← h1] at hdm
  have hS : a + (m - 1 - b) + k + m * ((d + c + b) / m) = d + m := by omega
  have hmod := congrArg (· % m) hS
  have hdiv := congrArg (· / m) hS
  simp only [Nat.add_mul_mod_self_left, Nat.add_mod_right, Nat.mod_eq_of_lt hd] at hmod
  simp only [Nat.add_mul_div_left _ _ hm0, Nat.add_div_right _ hm0, Nat.div_eq_of_lt hd] at hdiv
  rw [Nat.or_comm, h2]
  exact ⟨hmod.symm, (Nat.add_comm _ _).trans hdiv⟩

/-- one cell of `_build_mul` after `mul128(a, b, lo, hi)`: the running carry `c` and the limb `t` already there go
    into `lo`, the two carries of that into `hi` -/
theorem mul_cell_arith {m a b c t : Nat} (ha : a < m) (hb : b < m) (hc : c < m) (ht : t < m) :
    let lo := a * b % m
    let hi := a * b / m
    let lo1 := (lo + c) % m
    let c1 := b2n (lo1 < c)
    let lo2 := (lo1 + t) % m
    let hi' := (hi + (c1 + b2n (lo2 < t)) % m) % m
    lo2 < m ∧ hi' < m ∧ lo2 + hi' * m = a * b + c + t := by
  intro lo hi lo1 c1 lo2 hi'
  have hm : 0 < m := Nat.zero_lt_of_lt ha
  have e1 : lo1 + c1 * m = lo + c := add_wrap_right (Nat.mod_lt _ hm) hc
  have e2 : lo2 + b2n (lo2 < t) * m = lo1 + t := add_wrap_right (Nat.mod_lt _ hm) ht
  have hdm : m * hi + lo = a * b := Nat.div_add_mod (a * b) m
  have hsum : lo2 + (hi + (c1 + b2n (lo2 < t))) * m = a * b + c + t := by
    rw [Nat.add_mul, Nat.add_mul, Nat.mul_comm hi m]; omega
  -- the total is below `m * m`, so the high word does not overflow
  have hhi : hi + (c1 + b2n (lo2 < t)) < m := by
    obtain ⟨k, rfl⟩ := Nat.exists_eq_add_one_of_ne_zero hm.ne'
    have hab : a * b ≤ k * k := Nat.mul_le_mul (Nat.le_of_lt_succ ha) (Nat.le_of_lt_succ hb)
    refine Nat.lt_of_mul_lt_mul_right (a := k + 1) ?_
    rw [Nat.succ_mul_succ]
    omega
  refine ⟨Nat.mod_lt _ hm, Nat.mod_lt _ hm, ?_⟩
  unfold hi'
  rw [Nat.mod_eq_of_lt (Nat.lt_of_le_of_lt (Nat.le_add_left _ _) hhi), Nat.mod_eq_of_lt hhi]
  exact hsum

theorem lex_lt {P x y : Nat} (a b : Nat) (hx : x < P) (hy : y < P) :
    x + P * a < y + P * b ↔ a < b ∨ (a = b ∧ x < y) := by
  rcases Nat.lt_trichotomy a b with h | rfl | h
  · have := add_mul_lt hx h
    omega
  · omega
  · have := add_mul_lt hy h
    omega

/-- one more limb of `_build_cmp`'s chain `c || (eq && inner)` -/
theorem lex_step {P x y a b : Nat} (hx : x < P) (hy : y < P) :
    (decide (a < b) || (a == b && decide (x < y))) = decide (x + P * a < y + P * b) := by
  rw [Bool.eq_iff_iff]
  simp only [Bool.or_eq_true, Bool.and_eq_true, decide_eq_true_eq, beq_iff_eq, lex_lt a b hx hy]

/-- one more limb of `_build_eq`'s chain `inner && eq` -/
theorem eq_step {P x y a b : Nat} (hx : x < P) (hy : y < P) :
    (decide (x = y) && a == b) = decide (x + P * a = y + P * b) := by
  have h1 := lex_lt a b hx hy
  have h2 := lex_lt b a hy hx
  rw [Bool.eq_iff_iff]
  simp only [Bool.and_eq_true, decide_eq_true_eq, beq_iff_eq]
  omega

theorem limbOf_selectVal (l : List Nat) (A n : Nat) :
    limbOf (Spec.selectVal l A) n = Spec.selectVal ((l.drop (64 * n)).take 64) A := by
  rw [limbOf, M, Spec.selectVal_div, Spec.selectVal_mod]

theorem bit_of_limb (A b : Nat) : (limbOf A (b / 64) / 2 ^ (b % 64)) % 2 = Spec.bit A b := by
  have hb : b % 64 < 64 := Nat.mod_lt b (by decide)
  rw [limbOf, M_split hb.le, Nat.mod_mul_right_div_self,
    Nat.mod_mod_of_dvd _ (dvd_pow_self 2 (Nat.sub_ne_zero_of_lt hb)), Nat.div_div_eq_div_mul, ← Nat.pow_add,
    Nat.div_add_mod, Spec.bit]

/-- a value `x` placed at `D` and cut at `D * C`: the low part stays, the high part goes on above `D * C` -/
theorem place_split (R D C x Y : Nat) : R + D * (x % C) + D * C * (x / C + Y) = R + D * (x + C * Y) := by
  conv_rhs => rw [← Nat.div_add_mod x C]
  ring

theorem or_place {R x dpos : Nat} (hR : R < 2 ^ dpos) : R ||| 2 ^ dpos * x = R + 2 ^ dpos * x := by
  rw [Nat.or_comm, ← Nat.two_pow_add_eq_or_of_lt hR, Nat.add_comm]

end Pyrtl.CLimb
