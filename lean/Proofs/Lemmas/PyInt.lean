import Model.Core.PyInt
/-!
On casts of natural numbers Python's integer operations are the `Nat` operations, except that `~a` is `Int.negSucc a`;
`x & mask w` is `x % 2 ^ w` for every integer `x`, which is how the negative intermediate results of `~` and `-` come
back into range.  `Simulation` writes `x & mask`, `FastSimulation` emits `mask & x`: hence the lemmas in both orders.
-/
namespace Pyrtl

theorem two_pow_cast_pos (w : Nat) : (0 : Int) < ((2 ^ w : Nat) : Int) :=
  Int.natCast_pos.mpr (Nat.two_pow_pos w)

theorem emod_toNat_cast (x : Int) (w : Nat) :
    (((x % ((2 ^ w : Nat) : Int)).toNat : Nat) : Int) = x % ((2 ^ w : Nat) : Int) :=
  Int.toNat_of_nonneg (Int.emod_nonneg x (Int.ne_of_gt (two_pow_cast_pos w)))

theorem emod_toNat_lt (x : Int) (dw : Nat) : (x % ((2 ^ dw : Nat) : Int)).toNat < 2 ^ dw :=
  (Int.toNat_lt' (Nat.two_pow_pos dw)).mpr (Int.emod_lt_of_pos x (two_pow_cast_pos dw))

theorem emod_toNat_mod {z : Int} {w dw : Nat} (h : dw ≤ w) :
    (z % ((2 ^ w : Nat) : Int)).toNat % 2 ^ dw = (z % ((2 ^ dw : Nat) : Int)).toNat := by
  rw [← Int.emod_emod_of_dvd z (Int.natCast_dvd_natCast.mpr (Nat.pow_dvd_pow 2 h)),
    Int.toNat_emod (Int.emod_nonneg z (Int.ne_of_gt (two_pow_cast_pos w))) (Int.natCast_nonneg _), Int.toNat_natCast]

theorem natCast_emod_toNat (n w : Nat) : ((n : Int) % ((2 ^ w : Nat) : Int)).toNat = n % 2 ^ w := by
  rw [← Int.natCast_emod, Int.toNat_natCast]

theorem pyAnd_nat (a b : Nat) : pyAnd (a : Int) (b : Int) = ((a &&& b : Nat) : Int) := rfl
theorem pyOr_nat (a b : Nat) : pyOr (a : Int) (b : Int) = ((a ||| b : Nat) : Int) := rfl
theorem pyXor_nat (a b : Nat) : pyXor (a : Int) (b : Int) = ((a ^^^ b : Nat) : Int) := rfl

theorem pyOr_zero_left (x : Int) : pyOr 0 x = x := by
  cases x with
  | ofNat n => show pyOr (Int.ofNat 0) (Int.ofNat n) = _; simp [pyOr]
  | negSucc n => show pyOr (Int.ofNat 0) (Int.negSucc n) = _; simp [pyOr]

theorem pyNot_natCast (a : Nat) : pyNot (a : Int) = Int.negSucc a := by
  rw [Int.negSucc_eq]; unfold pyNot; omega

theorem pyShl_nat (a n : Nat) : pyShl (a : Int) (n : Int) = ((a * 2 ^ n : Nat) : Int) := by
  simp [pyShl, Int.natCast_mul, Int.natCast_pow]

theorem pyShr_nat (a n : Nat) : pyShr (a : Int) (n : Int) = ((a / 2 ^ n : Nat) : Int) := by
  simp [pyShr, Int.natCast_ediv, Int.natCast_pow]

theorem pyShl_one (w : Nat) : pyShl 1 (w : Int) = ((2 ^ w : Nat) : Int) := by
  simpa using pyShl_nat 1 w

theorem shl_one_sub (w : Nat) : pyShl 1 (w : Int) - 1 = mask w := by
  have := Nat.two_pow_pos w
  rw [pyShl_one, mask]
  omega

theorem shl_or_eq_add {r v w : Nat} (hv : v < 2 ^ w) : (r * 2 ^ w) ||| v = r * 2 ^ w + v := by
  have := Nat.shiftLeft_add_eq_or_of_lt hv r
  rw [Nat.shiftLeft_eq] at this
  exact this.symm

theorem pyAnd_mask_nonneg (a w : Nat) : pyAnd (a : Int) (mask w) = ((a % 2 ^ w : Nat) : Int) := by
  show pyAnd (Int.ofNat a) (Int.ofNat (2^w-1)) = _
  simp only [pyAnd]
  rw [Nat.and_two_pow_sub_one_eq_mod]

theorem pyAnd_mask_neg (a w : Nat) :
    pyAnd (Int.negSucc a) (mask w) = ((2 ^ w - 1 - a % 2 ^ w : Nat) : Int) := by
  show pyAnd (Int.negSucc a) (Int.ofNat (2^w-1)) = _
  simp only [pyAnd]
  rw [Nat.and_comm, Nat.and_two_pow_sub_one_eq_mod]

theorem pyAnd_mask (x : Int) (w : Nat) : pyAnd x (mask w) = x % ((2 ^ w : Nat) : Int) := by
  cases x with
  | ofNat a =>
    rw [Int.ofNat_eq_natCast, pyAnd_mask_nonneg, Int.natCast_emod]
  | negSucc a =>
    rw [pyAnd_mask_neg, Int.negSucc_emod _ (two_pow_cast_pos w)]
    have hm := Nat.mod_lt a (Nat.two_pow_pos w)
    have : ((a % 2 ^ w : Nat) : Int) = (a : Int) % ((2 ^ w : Nat) : Int) := Int.natCast_emod _ _
    omega

theorem pyNot_emod_toNat (a w : Nat) :
    (pyNot (a : Int) % ((2 ^ w : Nat) : Int)).toNat = 2 ^ w - 1 - a % 2 ^ w := by
  rw [← pyAnd_mask, pyNot_natCast, pyAnd_mask_neg, Int.toNat_natCast]

theorem pyAnd_comm (x y : Int) : pyAnd x y = pyAnd y x := by
  cases x <;> cases y <;> simp [pyAnd, Nat.and_comm, Nat.or_comm]

theorem mask_and_nat (a w : Nat) : pyAnd (mask w) (a : Int) = ((a % 2 ^ w : Nat) : Int) := by
  rw [pyAnd_comm, pyAnd_mask_nonneg]

theorem mask_not_nat (a w : Nat) :
    pyAnd (mask w) (pyNot (a : Int)) = ((2 ^ w - 1 - a % 2 ^ w : Nat) : Int) := by
  rw [pyAnd_comm, pyNot_natCast, pyAnd_mask_neg]

theorem mask_and_toNat (x : Int) (w : Nat) :
    pyAnd (mask w) x = (((x % ((2 ^ w : Nat) : Int)).toNat : Nat) : Int) := by
  rw [pyAnd_comm, pyAnd_mask, emod_toNat_cast]

end Pyrtl
