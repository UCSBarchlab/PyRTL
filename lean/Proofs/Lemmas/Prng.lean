import Model.Lib.Prng
import Mathlib.Data.Nat.ModEq
/-! Leap-ahead by concatenation, truncated to the register, equals `bw` single LFSR steps. -/
namespace Pyrtl.Prng

theorem fb_mod {y w : Nat} (hw : 127 ≤ w) : fb (y % 2 ^ w) = fb y := by
  unfold fb
  rw [Nat.testBit_mod_two_pow, Nat.testBit_mod_two_pow]
  have h1 : (125 < w) := by omega
  have h2 : (126 < w) := by omega
  simp [h1, h2]

theorem grow_mod {w : Nat} (hw : 127 ≤ w) (n x : Nat) :
    grow n x % 2 ^ w = iter (step1 w) n x % 2 ^ w := by
  induction n with
  | zero => rfl
  | succ n ih =>
    rw [grow, iter, grow1, step1, Nat.mod_mod, ← fb_mod hw, ih, fb_mod hw]
    exact Nat.ModEq.add_right _ (Nat.ModEq.mul_left 2 ih)

theorem iter_step1_lt {w n x : Nat} (hx : x < 2 ^ w) : iter (step1 w) n x < 2 ^ w := by
  cases n with
  | zero => exact hx
  | succ n =>
    rw [iter, step1]
    exact Nat.mod_lt _ (Nat.two_pow_pos _)

theorem iter_add (f : Nat → Nat) (a b x : Nat) : iter f a (iter f b x) = iter f (a + b) x := by
  induction a with
  | zero => simp [iter]
  | succ a ih => rw [Nat.succ_add]; simp only [iter, ih]

theorem regW_ge (bw : Nat) : 127 ≤ regW bw := by unfold regW; split <;> omega

end Pyrtl.Prng
