import Model.Lib.Barrel
/-! The bit-by-bit `shiftSpec` is list surgery (`shiftSpec_up`, `shiftSpec_down`); in that form shifts add up,
and stage `i` of the barrel shifter is the shift by `2^i` or by nothing. -/
namespace Pyrtl.Barrel

theorem shiftSpec_length (bits : List Bool) (b d : Bool) (s : Nat) :
    (shiftSpec bits b d s).length = bits.length := by
  simp [shiftSpec]

theorem shiftSpec_up (bits : List Bool) (b : Bool) (s : Nat) :
    shiftSpec bits b true s = (List.replicate s b ++ bits).take bits.length := by
  apply List.ext_getElem (by simp [shiftSpec])
  intro j _ _
  simp only [shiftSpec, shiftBit, List.getElem_map, List.getElem_range, List.getElem_take, List.getElem_append,
    List.length_replicate, List.getElem_replicate, if_true]
  split
  · rfl
  · exact (List.getElem_eq_getD b).symm

theorem shiftSpec_down (bits : List Bool) (b : Bool) (s : Nat) :
    shiftSpec bits b false s = (bits ++ List.replicate s b).drop s := by
  apply List.ext_getElem (by simp [shiftSpec])
  intro j _ _
  simp only [shiftSpec, shiftBit, List.getElem_map, List.getElem_range, List.getElem_drop, List.getElem_append,
    List.getElem_replicate, Bool.false_eq_true, if_false]
  split
  · rw [Nat.add_comm]
    exact (List.getElem_eq_getD b).symm
  · rw [List.getD_eq_getElem?_getD, List.getElem?_eq_none (by omega)]
    rfl

theorem shiftSpec_zero (bits : List Bool) (b d : Bool) : shiftSpec bits b d 0 = bits := by
  cases d
  · simp [shiftSpec_down]
  · simp [shiftSpec_up]

theorem shiftSpec_add (bits : List Bool) (b d : Bool) (s t : Nat) :
    shiftSpec (shiftSpec bits b d s) b d t = shiftSpec bits b d (s + t) := by
  cases d
  · rw [shiftSpec_down, shiftSpec_down, shiftSpec_down, ← List.drop_append_of_le_length (by simp), List.drop_drop,
      List.append_assoc, List.replicate_append_replicate]
  · -- what the first shift cut off would be cut off by the second as well
    rw [shiftSpec_up, shiftSpec_length, shiftSpec_up, shiftSpec_up, List.take_append, List.take_take,
      Nat.min_eq_left (Nat.sub_le _ _), ← List.take_append, ← List.append_assoc, List.replicate_append_replicate,
      Nat.add_comm]

theorem shiftSpec_ge (val : List Bool) (b d : Bool) {s : Nat} (h : val.length ≤ s) :
    shiftSpec val b d s = List.replicate val.length b := by
  cases d
  · rw [shiftSpec_down, List.drop_append, List.drop_of_length_le h, List.drop_replicate, List.nil_append,
      Nat.sub_sub_self h]
  · rw [shiftSpec_up, List.take_append_of_le_length (by simpa using h), List.take_replicate, Nat.min_eq_left h]

theorem up_eq (val : List Bool) (b : Bool) {amt : Nat} (h : amt ≤ val.length) :
    List.replicate amt b ++ val.take (val.length - amt) = shiftSpec val b true amt := by
  rw [shiftSpec_up, List.take_append, List.take_replicate, List.length_replicate, Nat.min_eq_right h]

theorem down_eq (val : List Bool) (b : Bool) {amt : Nat} (h : amt ≤ val.length) :
    val.drop amt ++ List.replicate amt b = shiftSpec val b false amt := by
  rw [shiftSpec_down, List.drop_append_of_le_length h]

theorem stage_spec (W : Nat) (b d : Bool) (i : Nat) (sel : Bool) (val : List Bool)
    (hv : val.length = W) :
    stage W d i sel (val, List.replicate (min (2 ^ i) W) b)
      = (shiftSpec val b d (2 ^ i * (if sel then 1 else 0)), List.replicate (min (2 ^ (i + 1)) W) b) := by
  subst hv
  have hsel : shiftSpec val b d (2 ^ i * (if sel then 1 else 0))
      = if sel then shiftSpec val b d (2 ^ i) else val := by
    cases sel
    · exact shiftSpec_zero val b d
    · rw [if_pos rfl, Nat.mul_one, if_pos rfl]
  rw [hsel]
  simp only [stage]
  by_cases hlt : 2 ^ i < val.length
  · have hle : 2 ^ i ≤ val.length := Nat.le_of_lt hlt
    rw [if_pos hlt, Nat.min_eq_left hle, up_eq val b hle, down_eq val b hle,
      List.replicate_append_replicate, List.take_replicate, ← Nat.mul_two, ← Nat.pow_succ, Nat.min_comm]
    cases d <;> rfl
  · have hge : val.length ≤ 2 ^ i := Nat.le_of_not_lt hlt
    rw [if_neg hlt, Nat.min_eq_right hge, Nat.min_eq_right (by rw [Nat.pow_succ]; omega), shiftSpec_ge val b d hge]

theorem loop_spec (W : Nat) (b d : Bool) (sd : List Bool) (i : Nat) (val : List Bool) (hv : val.length = W) :
    (loop W d i sd (val, List.replicate (min (2 ^ i) W) b)).1 = shiftSpec val b d (2 ^ i * dist sd) := by
  induction sd generalizing i val with
  | nil => rw [loop, dist, Nat.mul_zero, shiftSpec_zero]
  | cons sel rest ih =>
    rw [loop, stage_spec W b d i sel val hv, ih (i + 1) _ (by rw [shiftSpec_length]; exact hv), shiftSpec_add,
      dist, Nat.pow_succ, Nat.mul_add, Nat.mul_assoc]

end Pyrtl.Barrel
