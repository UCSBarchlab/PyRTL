import Model.Lib.Ops
import Proofs.Lemmas.SpecVal
import Mathlib.Tactic.Ring
/-! `toSigned (w, a)` is the balanced remainder `Int.bmod a (2^w)`, so an operator computed modulo `2^n` on words
reads as the same operator on the readings whenever the result fits the signed range of `n` bits
(`toSigned_mod`); sign extension, `signed_add`, `signed_mult`, `signed_lt` and the signed tree multiplier are
instances. -/
namespace Pyrtl.Ops

theorem selectVal_range (n v : Nat) : Spec.selectVal (List.range n) v = v % 2 ^ n :=
  Spec.selectVal_range n v

theorem lowBits_eq (w a n : Nat) : lowBits (w, a) n = (n, a % 2 ^ n) := by
  simp only [lowBits, Spec.comb, selectVal_range, Nat.mod_mod]

theorem extend_lt {w a n b : Nat} (ha : a < 2 ^ w) (hn : w ≤ n) (hb : b ≤ 1) :
    a + b * (2 ^ n - 2 ^ w) < 2 ^ n := by
  have := Nat.pow_le_pow_right (by decide : 0 < 2) hn
  rcases Nat.le_one_iff_eq_zero_or_eq_one.1 hb with rfl | rfl <;> omega

theorem extendWithBit_eq {w a n b : Nat} (ha : a < 2 ^ w) (hn : w ≤ n) (hb : b ≤ 1) :
    extendWithBit (w, a) n b = (n, a + b * (2 ^ n - 2 ^ w)) := by
  have hlt := extend_lt ha hn hb
  obtain ⟨k, rfl⟩ := Nat.exists_eq_add_of_le hn
  have hk : 1 ≤ 2 ^ k := Nat.one_le_two_pow
  have hb2 : b % 2 = b := Nat.mod_eq_of_lt (by omega)
  have hsel : b * (2 ^ k - 1) < 2 ^ k := by
    rcases Nat.le_one_iff_eq_zero_or_eq_one.1 hb with rfl | rfl <;> omega
  have hval : b * (2 ^ k - 1) * 2 ^ w + a = a + b * (2 ^ (w + k) - 2 ^ w) := by
    rw [Nat.pow_add, Nat.mul_assoc, Nat.sub_mul, Nat.one_mul, Nat.mul_comm (2 ^ k), Nat.add_comm]
  unfold extendWithBit
  by_cases h0 : k = 0
  · subst h0; simp
  · simp only [Nat.add_sub_cancel_left, h0, ↓reduceIte, Spec.comb, Spec.selectVal_replicate, hb2,
      Nat.mod_eq_of_lt hsel, Spec.concatVal, Nat.zero_mul, Nat.zero_add, hval, Nat.mod_eq_of_lt hlt,
      Nat.add_comm k w]

theorem zeroExtended_self (w a : Nat) : zeroExtended (w, a) w = (w, a) := by
  simp [zeroExtended, extendWithBit]

theorem msb_le_one (s : Sig) : msb s ≤ 1 :=
  Nat.le_of_lt_succ (Spec.bit_lt_two _ _)

theorem toSigned_eq_sub (s : Sig) : toSigned s = (s.2 : Int) - (msb s * 2 ^ s.1 : Nat) := by
  unfold toSigned
  rcases Nat.le_one_iff_eq_zero_or_eq_one.1 (msb_le_one s) with h | h <;> simp [h]

theorem toSigned_cases {w a : Nat} (hw : 0 < w) (ha : a < 2 ^ w) :
    msb (w, a) = 0 ∧ toSigned (w, a) = a ∧ 2 * a < 2 ^ w ∨
    msb (w, a) = 1 ∧ toSigned (w, a) = a - (2 ^ w : Nat) ∧ 2 ^ w ≤ 2 * a := by
  have h2 := Nat.two_pow_pred_mul_two hw
  have hm : msb (w, a) = a / 2 ^ (w - 1) % 2 := rfl
  unfold toSigned
  by_cases h : 2 ^ w ≤ 2 * a
  · rw [Nat.div_eq_of_lt_le (k := 1) (by omega) (by omega)] at hm
    exact .inr ⟨hm, if_pos hm, h⟩
  · rw [Nat.div_eq_of_lt (by omega)] at hm
    exact .inl ⟨hm, if_neg (by omega), Nat.lt_of_not_le h⟩

theorem toSigned_range {w a : Nat} (hw : 0 < w) (ha : a < 2 ^ w) :
    -((2 ^ w : Nat) : Int) ≤ toSigned (w, a) * 2 ∧ toSigned (w, a) * 2 < ((2 ^ w : Nat) : Int) := by
  rcases toSigned_cases hw ha with ⟨-, e, r⟩ | ⟨-, e, r⟩ <;> rw [e] <;> omega

theorem toSigned_eq_bmod {w a : Nat} (hw : 0 < w) (ha : a < 2 ^ w) :
    toSigned (w, a) = (a : Int).bmod (2 ^ w) := by
  obtain ⟨hlo, hhi⟩ := toSigned_range hw ha
  calc toSigned (w, a)
      = (toSigned (w, a)).bmod (2 ^ w) := (Int.bmod_eq_of_le_mul_two hlo hhi).symm
    _ = (a : Int).bmod (2 ^ w) := by rw [toSigned_eq_sub, Nat.cast_mul, Int.sub_mul_bmod_self_right]

theorem msb_eq_ite_neg {w a : Nat} (hw : 0 < w) (ha : a < 2 ^ w) :
    msb (w, a) = if toSigned (w, a) < 0 then 1 else 0 := by
  rcases toSigned_cases hw ha with ⟨m, e, -⟩ | ⟨m, e, -⟩
  · rw [m, e, if_neg (Int.natCast_nonneg a).not_gt]
  · rw [m, e, if_pos (Int.sub_neg_of_lt (Int.ofNat_lt.2 ha))]

theorem toSigned_of_bmod {n r : Nat} {s : Int} (hn : 0 < n) (hr : r < 2 ^ n)
    (hs : -((2 ^ n : Nat) : Int) ≤ s * 2 ∧ s * 2 < ((2 ^ n : Nat) : Int))
    (h : (r : Int).bmod (2 ^ n) = s.bmod (2 ^ n)) : toSigned (n, r) = s := by
  rw [toSigned_eq_bmod hn hr, h]
  exact Int.bmod_eq_of_le_mul_two hs.1 hs.2

theorem toSigned_mod {n v : Nat} {s : Int} (hn : 0 < n)
    (hs : -((2 ^ n : Nat) : Int) ≤ s * 2 ∧ s * 2 < ((2 ^ n : Nat) : Int))
    (h : (v : Int).bmod (2 ^ n) = s.bmod (2 ^ n)) : toSigned (n, v % 2 ^ n) = s := by
  apply toSigned_of_bmod hn (Nat.mod_lt _ (Nat.two_pow_pos n)) hs
  rw [← h, Int.natCast_mod, Int.emod_bmod]

/-- sign extension in the form the signed operators use it -/
theorem signExtended_spec {w a n : Nat} (hw : 0 < w) (ha : a < 2 ^ w) (hn : w ≤ n) :
    ∃ x, signExtended (w, a) n = (n, x) ∧ x < 2 ^ n ∧ toSigned (n, x) = toSigned (w, a) := by
  have hwn : 2 ^ w ≤ 2 ^ n := Nat.pow_le_pow_right Nat.two_pos hn
  have hm := msb_le_one (w, a)
  have hlt := extend_lt ha hn hm
  have hr := toSigned_range hw ha
  refine ⟨_, extendWithBit_eq ha hn hm, hlt, ?_⟩
  apply toSigned_of_bmod (hw.trans_le hn) hlt (by omega)
  -- the copies of the sign bit add `msb · 2^n` to the reading of the narrow word
  have : ((a + msb (w, a) * (2 ^ n - 2 ^ w) : Nat) : Int)
      = toSigned (w, a) + ((2 ^ n : Nat) : Int) * msb (w, a) := by
    rw [toSigned_eq_sub]; push_cast [Nat.cast_sub hwn]; ring
  rw [this, Int.add_mul_bmod_self_left]

theorem sign_extend_value (w a n : Nat) (hw : 0 < w) (ha : a < 2 ^ w) (hn : w ≤ n) :
    (signExtended (w, a) n).1 = n ∧ (signExtended (w, a) n).2 < 2 ^ n ∧
    toSigned (signExtended (w, a) n) = toSigned (w, a) := by
  obtain ⟨x, hx, hlt, hs⟩ := signExtended_spec hw ha hn
  rw [hx]
  exact ⟨rfl, hlt, hs⟩

theorem mul_range {s t : Int} {a b : Nat}
    (hs : -((2 ^ a : Nat) : Int) ≤ s * 2 ∧ s * 2 < ((2 ^ a : Nat) : Int))
    (ht : -((2 ^ b : Nat) : Int) ≤ t * 2 ∧ t * 2 < ((2 ^ b : Nat) : Int)) :
    4 * (s.natAbs * t.natAbs) ≤ 2 ^ (a + b) := by
  have h := Nat.mul_le_mul (show 2 * s.natAbs ≤ 2 ^ a by omega) (show 2 * t.natAbs ≤ 2 ^ b by omega)
  rwa [← Nat.pow_add, Nat.mul_mul_mul_comm] at h

theorem twosCompCond_fst (x : Sig) (s : Bool) : (twosCompCond x s).1 = x.1 := by
  cases s <;> rfl

theorem twosCompCond_msb {w a : Nat} (hw : 0 < w) (ha : a < 2 ^ w) :
    twosCompCond (w, a) (msb (w, a) == 1) = (w, (toSigned (w, a)).natAbs) := by
  rcases toSigned_cases hw ha with ⟨m, e, r⟩ | ⟨m, e, r⟩
  · simp [twosCompCond, m, e]
  · simp only [twosCompCond, m, beq_self_eq_true, ↓reduceIte, e, Prod.mk.injEq, true_and]
    rw [Nat.mod_eq_of_lt (by omega)]
    omega

theorem toSigned_twosCompCond {W p : Nat} (s : Bool) (hW : 0 < W) (hp : 2 * p < 2 ^ W) :
    toSigned (twosCompCond (W, p) s) = if s then -(p : Int) else p := by
  cases s
  · exact toSigned_of_bmod (s := p) hW (by omega) (by omega) rfl
  · simp only [twosCompCond, ↓reduceIte]
    apply toSigned_mod hW (by omega)
    rw [show ((2 ^ W - 1 - p + 1 : Nat) : Int) = -(p : Int) + ((2 ^ W : Nat) : Int) * 1 by omega,
      Int.add_mul_bmod_self_left]

theorem signedTreeMult_exact {mul : Sig → Sig → Sig} (hmul : ∀ x y : Sig, mul x y = (x.1 + y.1, x.2 * y.2))
    {wa a wb b : Nat} (hwa : 0 < wa) (hwb : 0 < wb) (ha : a < 2 ^ wa) (hb : b < 2 ^ wb) :
    (signedTreeMult mul (wa, a) (wb, b)).1 = wa + wb ∧
    toSigned (signedTreeMult mul (wa, a) (wb, b)) = toSigned (wa, a) * toSigned (wb, b) := by
  have hr := mul_range (toSigned_range hwa ha) (toSigned_range hwb hb)
  have hma := msb_eq_ite_neg hwa ha
  have hmb := msb_eq_ite_neg hwb hb
  simp only [signedTreeMult, twosCompCond_msb hwa ha, twosCompCond_msb hwb hb, hmul, zeroExtended_self]
  generalize toSigned (wa, a) = sa at *
  generalize toSigned (wb, b) = sb at *
  have hp : 2 * (sa.natAbs * sb.natAbs) < 2 ^ (wa + wb) := by
    have := Nat.two_pow_pos (wa + wb)
    omega
  refine ⟨twosCompCond_fst _ _, ?_⟩
  rw [toSigned_twosCompCond _ (by omega) hp, hma, hmb, Nat.cast_mul]
  rcases lt_or_ge sa 0 with h1 | h1 <;> rcases lt_or_ge sb 0 with h2 | h2
  · rw [Int.ofNat_natAbs_of_nonpos h1.le, Int.ofNat_natAbs_of_nonpos h2.le]; simp [h1, h2]
  · rw [Int.ofNat_natAbs_of_nonpos h1.le, Int.natAbs_of_nonneg h2]; simp [h1, h2.not_gt]
  · rw [Int.natAbs_of_nonneg h1, Int.ofNat_natAbs_of_nonpos h2.le]; simp [h1.not_gt, h2]
  · rw [Int.natAbs_of_nonneg h1, Int.natAbs_of_nonneg h2]; simp [h1.not_gt, h2.not_gt]

end Pyrtl.Ops
