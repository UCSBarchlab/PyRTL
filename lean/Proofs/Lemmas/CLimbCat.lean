import Proofs.Lemmas.CLimb
/-!
`_build_concat` at the natural destination width: packing pieces into limbs is concatenation.

A piece is a run of bits of one argument limb still to be placed; `pv` is its value, `SV` the value of a stream of
pieces (least significant first), `bitsOf` the stream's length in bits; a piece is `Fresh` while nothing has been cut off
it.  The arguments, last first, are a stream of fresh pieces whose value is the concatenation (`argPieces_spec`,
`pieces_of_args`); the outer loop keeps "this limb + `2 ^ 64` · the stream handed on = the stream received"
(`catInner_spec`, `catOuter_spec`).
-/
namespace Pyrtl.CLimb

structure CatArgs (σ : Env) (ws : List Nat) (Vs : Nat → Nat) : Prop where
  enc : ∀ k, Enc σ k (Vs k)
  lt : ∀ k, k < ws.length → Vs k < 2 ^ (ws.getD k 0)

def pv (Vs : Nat → Nat) (p : Piece) : Nat := limbOf (Vs p.k) p.limb / 2 ^ p.start

structure PieceOk (Vs : Nat → Nat) (p : Piece) : Prop where
  pos : 0 < p.size
  fit : p.start + p.size ≤ 64
  bound : limbOf (Vs p.k) p.limb < 2 ^ (p.start + p.size)

def Fresh (Vs : Nat → Nat) (p : Piece) : Prop := PieceOk Vs p ∧ p.start = 0

theorem pv_lt {Vs : Nat → Nat} {p : Piece} (h : PieceOk Vs p) : pv Vs p < 2 ^ p.size :=
  div_two_pow_lt h.bound

def SV (Vs : Nat → Nat) : List Piece → Nat
  | [] => 0
  | p :: rest => pv Vs p + 2 ^ p.size * SV Vs rest

def bitsOf : List Piece → Nat
  | [] => 0
  | p :: rest => p.size + bitsOf rest

theorem SV_append (Vs : Nat → Nat) (ps qs : List Piece) :
    SV Vs (ps ++ qs) = SV Vs ps + 2 ^ bitsOf ps * SV Vs qs := by
  induction ps with
  | nil => simp [SV, bitsOf]
  | cons p rest ih => simp only [List.cons_append, SV, bitsOf, ih, Nat.pow_add]; ring

theorem bitsOf_append (ps qs : List Piece) : bitsOf (ps ++ qs) = bitsOf ps + bitsOf qs := by
  induction ps with
  | nil => simp [bitsOf]
  | cons p rest ih => simp only [List.cons_append, bitsOf, ih]; omega

theorem evalOr_place {σ : Env} {Vs : Nat → Nat} (henc : ∀ k, Enc σ k (Vs k)) {res : List E} (p : Piece) {dpos : Nat}
    (hR : evalOr σ res < 2 ^ dpos) (hd : dpos ≤ 64) :
    evalOr σ (res ++ [E.shl (.shr (.v (.arg p.k p.limb)) p.start) dpos])
      = evalOr σ res + 2 ^ dpos * (pv Vs p % 2 ^ (64 - dpos)) := by
  simp only [evalOr_snoc, E.eval, henc p.k p.limb]
  rw [← pv, M_split hd, Nat.mul_comm (pv Vs p), Nat.mul_mod_mul_left, or_place hR]

/-- The piece kept for the next limb; the last conjunct cuts the weight `2 ^ p.size` at the same place. -/
theorem cut_spec {Vs : Nat → Nat} {p : Piece} {dpos : Nat} (hp : PieceOk Vs p) (hs0 : p.start = 0) (hd : dpos < 64)
    (hcross : dpos + p.size > 64) :
    PieceOk Vs ⟨p.k, p.limb, 64 - dpos, dpos + p.size - 64⟩ ∧
    pv Vs ⟨p.k, p.limb, 64 - dpos, dpos + p.size - 64⟩ = pv Vs p / 2 ^ (64 - dpos) ∧
    (2 : Nat) ^ p.size = 2 ^ (64 - dpos) * 2 ^ (dpos + p.size - 64) := by
  have e : 64 - dpos + (dpos + p.size - 64) = p.start + p.size := by omega
  refine ⟨⟨Nat.sub_pos_of_lt hcross, e.trans_le hp.fit, ?_⟩, ?_, ?_⟩
  · rw [e]
    exact hp.bound
  · simp only [pv, hs0, Nat.pow_zero, Nat.div_one]
  · rw [← Nat.pow_add, e, hs0, Nat.zero_add]

/-- The inner `while True:` of `_build_concat` for destination limb `n`, entered at bit `dpos` with the stream
    `curr :: rest` still to be placed.  If the stream ends in this limb, the limb holds all of it; if not, the limb
    and the stream handed on, placed `2 ^ 64` higher, make up all of it.  Every round places at least one bit, so
    `66 ≤ fuel + dpos` keeps the fuel from running out; a piece cut by the limb before can only be the first of its
    limb (`curr.start ≠ 0 → dpos = 0`). -/
theorem catInner_spec {σ : Env} {Vs : Nat → Nat} (henc : ∀ k, Enc σ k (Vs k)) {wd n rem : Nat}
    (hrem : wd - 64 * n = rem) :
    ∀ (fuel dpos : Nat) (res : List E) {curr : Piece} {rest : List Piece},
      66 ≤ fuel + dpos → dpos < 64 →
      PieceOk Vs curr → (∀ p ∈ rest, Fresh Vs p) → (curr.start ≠ 0 → dpos = 0) →
      evalOr σ res < 2 ^ dpos →
      dpos + bitsOf (curr :: rest) = rem →
      ∀ {res' curr' rest'}, catInner wd n fuel dpos res curr rest = (res', curr', rest') →
      (rem ≤ 64 → evalOr σ res' = evalOr σ res + 2 ^ dpos * SV Vs (curr :: rest)) ∧
      (64 < rem →
        evalOr σ res' + 2 ^ 64 * SV Vs (curr' :: rest') = evalOr σ res + 2 ^ dpos * SV Vs (curr :: rest) ∧
        PieceOk Vs curr' ∧ (∀ p ∈ rest', Fresh Vs p) ∧
        bitsOf (curr' :: rest') + 64 = rem) := by
  intro fuel
  induction fuel with
  | zero => intro dpos _ _ _ h1 h2; omega
  | succ f ih =>
    intro dpos res curr rest hfuel hd hcok hrest hcs hR hbits res' curr' rest' hout
    have hval := evalOr_place henc curr hR hd.le
    rw [bitsOf] at hbits
    unfold catInner at hout
    simp only [hrem] at hout
    by_cases hcross : dpos + curr.size > 64
    · simp only [hcross, if_true, Prod.mk.injEq, Nat.add_sub_cancel] at hout
      obtain ⟨rfl, rfl, rfl⟩ := hout
      -- a piece that crosses is fresh: one cut before starts its limb (`hcs`) and fits into it
      have hs0 : curr.start = 0 := by
        have := hcok.fit
        omega
      obtain ⟨hok, hpc, hsz⟩ := cut_spec hcok hs0 hd hcross
      have h64 : (2 : Nat) ^ 64 = 2 ^ dpos * 2 ^ (64 - dpos) := M_split hd.le
      refine ⟨fun hle => by omega, fun _ => ⟨?_, hok, hrest, by simp only [bitsOf]; omega⟩⟩
      rw [hval, SV, SV, hpc, h64, hsz, Nat.mul_assoc (2 ^ (64 - dpos)), place_split]
    · simp only [hcross, if_false] at hout
      have hpv := pv_lt hcok
      rw [Nat.mod_eq_of_lt (lt_two_pow_of_le hpv (Nat.le_sub_of_add_le' (Nat.not_lt.mp hcross)))] at hval
      by_cases hlast : dpos + curr.size ≥ rem
      · simp only [hlast, if_true, Prod.mk.injEq] at hout
        obtain ⟨rfl, rfl, rfl⟩ := hout
        -- nothing is left: one piece more would be one bit more
        cases rest with
        | nil =>
          exact ⟨fun _ => by rw [hval, SV, SV, Nat.mul_zero, Nat.add_zero],
            fun hgt => absurd (hgt.trans_le hlast) hcross⟩
        | cons q _ =>
          have := (hrest q List.mem_cons_self).1.pos
          rw [bitsOf] at hbits
          omega
      · simp only [hlast, if_false] at hout
        cases rest with
        | nil => simp only [bitsOf] at hbits; omega
        | cons nxt rest'' =>
          obtain ⟨hnx, hrest''⟩ := List.forall_mem_cons.mp hrest
          have hcomb : evalOr σ res + 2 ^ dpos * pv Vs curr + 2 ^ (dpos + curr.size) * SV Vs (nxt :: rest'')
              = evalOr σ res + 2 ^ dpos * SV Vs (curr :: nxt :: rest'') := by
            simp only [Nat.pow_add, SV]; ring
          rw [bitsOf] at hbits
          simp only [] at hout
          by_cases hfull : dpos + curr.size = 64
          · simp only [hfull, beq_self_eq_true, if_true, Prod.mk.injEq] at hout
            obtain ⟨rfl, rfl, rfl⟩ := hout
            rw [hfull] at hcomb
            exact ⟨fun hle => absurd (hle.trans hfull.ge) hlast, fun _ => ⟨by rw [hval, hcomb], hnx.1, hrest'',
              by rw [bitsOf]; omega⟩⟩
          · simp only [beq_iff_eq, hfull, if_false] at hout
            obtain ⟨ihA, ihB⟩ := ih (dpos + curr.size) _ (by have := hcok.pos; omega)
              (Nat.lt_of_le_of_ne (Nat.not_lt.mp hcross) hfull) hnx.1 hrest'' (fun hne => absurd hnx.2 hne)
              (by rw [hval, Nat.pow_add]; exact add_mul_lt hR hpv)
              (by rw [bitsOf, Nat.add_assoc]; exact hbits) hout
            rw [hval, hcomb] at ihA ihB
            exact ⟨ihA, ihB⟩

theorem catOuter_spec {Vs : Nat → Nat} (wd : Nat) :
    ∀ (k n : Nat) {σ : Env} {curr : Piece} {rest : List Piece},
      n + k = limbs wd → 0 < k → (∀ j, Enc σ j (Vs j)) →
      PieceOk Vs curr → (∀ p ∈ rest, Fresh Vs p) →
      bitsOf (curr :: rest) + 64 * n = wd →
      destVal (execList σ (catOuter wd wd (List.range' n k) curr rest)) (n + k)
        = destVal σ n + 2 ^ (64 * n) * SV Vs (curr :: rest) := by
  intro k
  induction k with
  | zero => intro _ _ _ _ _ h; exact absurd h (Nat.lt_irrefl 0)
  | succ k ih =>
    intro n σ curr rest hL _ henc hcok hrest hbits
    rcases hout : catInner wd n 66 0 [] curr rest with ⟨res', curr', rest'⟩
    obtain ⟨hlastc, hmorec⟩ := catInner_spec henc (Nat.sub_eq_of_eq_add hbits.symm) 66 0 [] (Nat.le_refl 66)
      (by decide) hcok hrest (fun _ => rfl) (Nat.two_pow_pos 0) (Nat.zero_add _) hout
    simp only [show evalOr σ [] = 0 from rfl, Nat.pow_zero, Nat.one_mul, Nat.zero_add] at hlastc hmorec
    simp only [List.range'_succ, catOuter, hout, execList, S.exec, eval_mask, masked, maskCond_natural,
      Bool.false_eq_true, if_false, eval_orAll]
    rw [← Nat.add_assoc, Nat.add_right_comm] at hL ⊢
    rcases Nat.eq_zero_or_pos k with rfl | hk
    · have hrem : bitsOf (curr :: rest) ≤ 64 := by
        have := (lt_limbs_iff wd (n + 1)).not.mp (by omega)
        omega
      simp only [List.range'_zero, catOuter, execList]
      rw [destVal, get_set_same, destVal_set_dest, hlastc hrem]
      ring
    · have hrem : 64 < bitsOf (curr :: rest) := by
        have := (lt_limbs_iff wd (n + 1)).mp (by omega)
        omega
      obtain ⟨hsum, hok', hrest', hbits'⟩ := hmorec hrem
      rw [ih (n + 1) hL hk (fun j l => (get_set_ne (by simp)).trans (henc j l)) hok' hrest' (by omega),
        destVal, get_set_same, destVal_set_dest, pow_succ_limb, M, ← hsum]
      ring

def argPieces (w k : Nat) (j cnt : Nat) : List Piece :=
  (List.range' j cnt).map fun lx => (⟨k, lx, 0, min 64 (w - 64 * lx)⟩ : Piece)

theorem argPieces_spec {Vs : Nat → Nat} {w k : Nat} (hV : Vs k < 2 ^ w) :
    ∀ (cnt j : Nat), j + cnt = limbs w →
      SV Vs (argPieces w k j cnt) = Vs k / 2 ^ (64 * j) ∧ bitsOf (argPieces w k j cnt) = w - 64 * j ∧
      (∀ p ∈ argPieces w k j cnt, Fresh Vs p) := by
  intro cnt
  induction cnt with
  | zero =>
    intro j hj
    exact ⟨(Nat.div_eq_of_lt (lt_pow_limbs hV hj.ge)).symm, (Nat.sub_eq_zero_of_le (le_of_limbs_le hj.ge)).symm,
      fun _ h => nomatch h⟩
  | succ cnt ih =>
    intro j hj
    obtain ⟨h1, h2, h3⟩ := ih (j + 1) (by omega)
    have hjw : 64 * j < w := (lt_limbs_iff w j).mp (by omega)
    have hsmall : Vs k / 2 ^ (64 * j) < 2 ^ (w - 64 * j) := div_two_pow_lt (by rwa [Nat.add_sub_cancel' hjw.le])
    -- limb `j` holds `min 64 (w - 64 j)` bits; when fewer than 64, nothing lies above it
    have hlimb : limbOf (Vs k) j < 2 ^ min 64 (w - 64 * j) ∧
        2 ^ min 64 (w - 64 * j) * (Vs k / 2 ^ (64 * (j + 1))) = M * (Vs k / 2 ^ (64 * (j + 1))) := by
      rcases Nat.le_total 64 (w - 64 * j) with hfull | hpart
      · rw [Nat.min_eq_left hfull]; exact ⟨limbOf_lt _ _, rfl⟩
      · have hM : 2 ^ (w - 64 * j) ≤ M := Nat.pow_le_pow_right (by decide) hpart
        rw [Nat.min_eq_right hpart, pow_succ_limb, ← Nat.div_div_eq_div_mul, Nat.div_eq_of_lt (lt_of_lt_of_le hsmall hM),
          Nat.mul_zero, Nat.mul_zero]
        exact ⟨lt_of_le_of_lt (Nat.mod_le _ _) hsmall, rfl⟩
    simp only [argPieces, List.range'_succ, List.map_cons, SV, bitsOf, pv, Nat.pow_zero, Nat.div_one, List.mem_cons,
      forall_eq_or_imp] at h1 h2 h3 ⊢
    refine ⟨?_, ?_, ⟨⟨Nat.lt_min.mpr ⟨by decide, Nat.sub_pos_of_lt hjw⟩, (Nat.zero_add _).trans_le (Nat.min_le_left _ _),
      (Nat.zero_add _).symm ▸ hlimb.1⟩, rfl⟩, h3⟩
    · rw [h1, hlimb.2, limbOf, pow_succ_limb, ← Nat.div_div_eq_div_mul, Nat.mod_add_div]
    · rw [h2, Nat.mul_succ, ← Nat.sub_sub, Nat.add_comm, Nat.min_comm, Nat.sub_add_min_cancel]

theorem pieces_of_args {Vs : Nat → Nat} {l : List (Nat × Nat)} (h : ∀ p ∈ l, Vs p.2 < 2 ^ p.1) :
    SV Vs ((l.reverse.map fun (p : Nat × Nat) => argPieces p.1 p.2 0 (limbs p.1)).flatten)
        = Spec.concatVal (l.map fun p => (p.1, Vs p.2)) 0 ∧
    bitsOf ((l.reverse.map fun (p : Nat × Nat) => argPieces p.1 p.2 0 (limbs p.1)).flatten)
        = (l.map (·.1)).sum ∧
    (∀ q ∈ (l.reverse.map fun (p : Nat × Nat) => argPieces p.1 p.2 0 (limbs p.1)).flatten, Fresh Vs q) := by
  induction l with
  | nil => simp [SV, bitsOf, Spec.concatVal]
  | cons x xs ih =>
    obtain ⟨hx, h⟩ := List.forall_mem_cons.mp h
    obtain ⟨i1, i2, i3⟩ := ih h
    obtain ⟨a1, a2, a3⟩ := argPieces_spec hx (limbs x.1) 0 (by omega)
    simp only [List.reverse_cons, List.map_append, List.map_cons, List.map_nil, List.flatten_append, List.flatten_cons,
      List.flatten_nil, List.append_nil, SV_append, bitsOf_append, i1, i2, a1, a2, Nat.mul_zero, Nat.pow_zero,
      Nat.div_one, Nat.sub_zero, List.sum_cons, List.mem_append, Spec.concatVal, Nat.zero_mul, Nat.zero_add]
    refine ⟨?_, Nat.add_comm _ _, fun q hq => hq.elim (i3 q) (a3 q)⟩
    rw [Spec.concatVal_acc _ (Vs x.2), List.map_map]
    rw [Nat.add_comm, Nat.mul_comm]
    rfl

theorem catPieces_eq (ws : List Nat) :
    catPieces ws = ((ws.zipIdx.reverse).map fun (p : Nat × Nat) => argPieces p.1 p.2 0 (limbs p.1)).flatten := by
  unfold catPieces argPieces
  simp only [List.range_eq_range']

/-- `_build_concat` for a destination as wide as its arguments together only, where no mask is applied. -/
theorem emitConcat_correct {σ0 : Env} {ws : List Nat} {Vs : Nat → Nat} (henc : ∀ k, Enc σ0 k (Vs k))
    (hlt : ∀ p ∈ ws.zipIdx, Vs p.2 < 2 ^ p.1) :
    destVal (execList σ0 (emitConcat ws ws.sum)) (limbs ws.sum)
      = Spec.concatVal (ws.zipIdx.map fun p => (p.1, Vs p.2)) 0 := by
  obtain ⟨s1, s2, s3⟩ := pieces_of_args hlt
  rw [← catPieces_eq] at s1 s2 s3
  rw [List.zipIdx_map_fst] at s2
  unfold emitConcat
  cases hp : catPieces ws with
  | nil =>
    rw [hp] at s1 s2
    rw [← s1, ← s2]
    rfl
  | cons p rest =>
    rw [hp] at s1 s2 s3
    have hp0 := (s3 p List.mem_cons_self).1
    have hsum : 0 < ws.sum := by have := hp0.pos; rw [bitsOf] at s2; omega
    have := catOuter_spec ws.sum (limbs ws.sum) 0 (by omega) (limbs_pos hsum) henc hp0
      (fun q hq => s3 q (List.mem_cons_of_mem _ hq)) s2
    simp only [Nat.zero_add, destVal, Nat.mul_zero, Nat.pow_zero, Nat.one_mul] at this
    rw [List.range_eq_range', this, s1]

end Pyrtl.CLimb
