import Proofs.Lemmas.EvalOrder
/-!
# Passes that keep some wires: from one valuation to every run

A pass removes or replaces combinational nets and leaves the state-holding nets (`r`, `@`) alone, up to a renaming of
the wires they read.  Three steps that do not depend on the pass: the valuation (`evalSeq_kept`), one cycle
(`step_state_eq`), every run (`AgreeOn.run`).
-/
namespace Pyrtl

/-- The valuation of `order`, replaced by `e` off `K`, is consistent for `order'`; uniqueness does the rest. -/
theorem evalSeq_kept (f : Net → List Nat → Nat) {order order' : List Net} (e : Env) (K : Nat → Prop)
    (hto : Topo order order []) (hto' : Topo order' order' [])
    (hnet : ∀ n ∈ order', K n.dest ∧ (∀ a ∈ n.args, K a) ∧
      evalSeq f order e n.dest = f n (n.args.map (evalSeq f order e)))
    (hdrv : ∀ n ∈ order, K n.dest → ∃ n' ∈ order', n'.dest = n.dest) :
    ∀ x, K x → evalSeq f order' e x = evalSeq f order e x := by
  classical
  intro x hx
  let v' : Env := fun w => if K w then evalSeq f order e w else e w
  have hv' : ∀ w, K w → v' w = evalSeq f order e w := fun w hw => if_pos hw
  have hcons : Consistent f order' e v' := by
    refine ⟨fun n hn => ?_, fun y hy => ?_⟩
    · obtain ⟨hd, ha, hv⟩ := hnet n hn
      rw [hv' _ hd, hv, List.map_congr_left (fun a h => hv' a (ha a h))]
    · by_cases hK : K y
      · rw [hv' y hK]
        refine (evalSeq_consistent f order e hto).2 y fun n hn hnd => ?_
        obtain ⟨n', hn', hd⟩ := hdrv n hn (hnd ▸ hK)
        exact hy n' hn' (hd.trans hnd)
      · exact if_neg hK
  rw [consistent_unique hto' (evalSeq_consistent f order' e hto') hcons x, hv' x hx]

theorem evalSeq_removed (f : Net → List Nat → Nat) {order order' : List Net} (removed : List Net) (t : Net → Net)
    (e : Env) (hto : Topo order order []) (hto' : Topo order' order' [])
    (hsingle : ∀ n ∈ order, ∀ m ∈ order, n.dest = m.dest → n = m) (hrem : ∀ r ∈ removed, r ∈ order)
    (hkept : ∀ n', n' ∈ order' ↔ ∃ n ∈ order, n ∉ removed ∧ t n = n')
    (ht : ∀ n ∈ order, n ∉ removed → (t n).dest = n.dest ∧ (∀ a ∈ (t n).args, ¬ ∃ r ∈ removed, r.dest = a) ∧
      f (t n) ((t n).args.map (evalSeq f order e)) = f n (n.args.map (evalSeq f order e))) :
    ∀ x, (¬ ∃ r ∈ removed, r.dest = x) → evalSeq f order' e x = evalSeq f order e x := by
  refine evalSeq_kept f e _ hto hto' (fun n' hn' => ?_) (fun n hn hK => ?_)
  · obtain ⟨n, hn, hnr, rfl⟩ := (hkept n').mp hn'
    obtain ⟨hd, hargs, hv⟩ := ht n hn hnr
    refine ⟨fun ⟨r, hr, hrd⟩ => hnr ?_, hargs, ?_⟩
    · -- one driver per wire: the net driving a removed destination is the removed net
      exact hsingle r (hrem r hr) n hn (hrd.trans hd) ▸ hr
    · rw [hv, hd]
      exact (evalSeq_consistent f order e hto).1 n hn
  · have hnr : n ∉ removed := fun h => hK ⟨n, h, rfl⟩
    exact ⟨t n, (hkept _).mpr ⟨n, hn, hnr, rfl⟩, (ht n hn hnr).1⟩

def stateNets (ns : List Net) : List Net := ns.filter (fun n => !n.op.isComb)

theorem filter_stateNets {p : Net → Bool} (hp : ∀ n, p n = true → n.op.isComb = false) (ns : List Net) :
    (stateNets ns).filter p = ns.filter p := by
  rw [stateNets, List.filter_filter]
  refine List.filter_congr fun n _ => Bool.and_eq_left_iff_imp.mpr fun h => ?_
  rw [hp n h]
  rfl

theorem stateNets_remove {removed ns : List Net} (h : ∀ r ∈ removed, r.op.isComb = true) :
    stateNets (ns.filter (fun n => !removed.contains n)) = stateNets ns := by
  rw [stateNets, List.filter_filter]
  refine List.filter_congr fun n _ => Bool.and_eq_left_iff_imp.mpr fun hc => ?_
  have : n ∉ removed := fun hr => by simp [h n hr] at hc
  simp [this]

theorem regNetOf_some {b : Block} {r : Nat} {n : Net} (h : regNetOf b r = some n) :
    n ∈ b.nets ∧ n.op = .reg ∧ n.dests = [r] := by
  have hp := List.find?_some h
  simp only [Bool.and_eq_true, beq_iff_eq] at hp
  exact ⟨List.mem_of_find?_eq_some h, hp⟩

theorem regNetOf_stateNets (b : Block) (r : Nat) : regNetOf { b with nets := stateNets b.nets } r = regNetOf b r := by
  simp only [regNetOf, ← List.head?_filter]
  rw [filter_stateNets fun n h => ?_]
  rw [beq_iff_eq.mp (Bool.and_eq_true_iff.mp h).1]
  rfl

theorem writeNets_stateNets (b : Block) : writeNets { b with nets := stateNets b.nets } = writeNets b :=
  filter_stateNets (fun n h => by
    split at h
    · rename_i hop
      rw [hop]
      rfl
    · cases h) b.nets

def Net.rename (g : Nat → Nat) (n : Net) : Net := { n with args := n.args.map g }

theorem Net.rename_id : Net.rename id = id := funext fun n => by simp [Net.rename]

theorem applyWrites_rename (e e' : Env) (g : Nat → Nat) (ns : List Net) (mm : Nat → Nat → Nat)
    (h : ∀ n ∈ ns, ∀ a ∈ n.args, e' (g a) = e a) :
    applyWrites e' (ns.map (Net.rename g)) mm = applyWrites e ns mm := by
  induction ns generalizing mm with
  | nil => rfl
  | cons n ns ih =>
    obtain ⟨hn, h⟩ := List.forall_mem_cons.mp h
    have ihn := fun mm => ih mm h
    simp only [List.map_cons, applyWrites, Net.rename]
    split
    · rename_i m a' d' en' hop hargs
      match hn' : n.args, hargs with
      | [a, d, en], hargs =>
        simp only [List.map_cons, List.map_nil, List.cons.injEq, and_true] at hargs
        obtain ⟨rfl, rfl, rfl⟩ := hargs
        rw [hn'] at hn
        simp only [hop, hn a (by simp), hn d (by simp), hn en (by simp), ihn]
    · rename_i hne
      split
      · rename_i m a d en hop hargs
        exact absurd (by simp [hargs]) (hne m (g a) (g d) (g en) hop)
      · exact ihn _

theorem nextState_eq (b b' : Block) (g : Nat → Nat) (st : State) {env env' : Env}
    (hregs : ∀ r, regNetOf b' r = (regNetOf b r).map (Net.rename g))
    (hwrites : writeNets b' = (writeNets b).map (Net.rename g))
    (hwidth : ∀ r n, regNetOf b r = some n → b'.width r = b.width r)
    (hr : ∀ r n, regNetOf b r = some n → env' ((n.args.map g).headD 0) = env (n.args.headD 0))
    (hw : ∀ n ∈ writeNets b, ∀ a ∈ n.args, env' (g a) = env a) :
    (⟨nextRegs b' env' st, applyWrites env' (writeNets b') st.mems⟩ : State)
      = ⟨nextRegs b env st, applyWrites env (writeNets b) st.mems⟩ := by
  congr 1
  · funext r
    simp only [nextRegs, hregs]
    cases hn : regNetOf b r with
    | none => rfl
    | some n => simp only [Option.map_some, Net.rename, hwidth r n hn, hr r n hn]
  · rw [hwrites]
    exact applyWrites_rename _ _ g _ st.mems hw

theorem step_state_eq {b : Block} {ns' : List Net} (g : Nat → Nat) {order order' : List Net} {st : State}
    {inp : Env}
    (hstate : stateNets ns' = (stateNets b.nets).map (Net.rename g))
    (hreg : ∀ n ∈ b.nets, n.op = .reg → ∃ a, n.args = [a])
    (hread : ∀ n ∈ b.nets, n.op.isComb = false → ∀ a ∈ n.args,
      evalNets b st order' (baseEnv b st inp) (g a) = evalNets b st order (baseEnv b st inp) a) :
    (step { b with nets := ns' } order' st inp).2 = (step b order st inp).2 := by
  have hregs : ∀ r, regNetOf { b with nets := ns' } r = (regNetOf b r).map (Net.rename g) := fun r => by
    rw [← regNetOf_stateNets, ← regNetOf_stateNets b]
    simp only [hstate, regNetOf, List.find?_map]
    rfl
  have hwrites : writeNets { b with nets := ns' } = (writeNets b).map (Net.rename g) := by
    rw [← writeNets_stateNets, ← writeNets_stateNets b]
    simp only [hstate, writeNets, List.filter_map]
    rfl
  refine nextState_eq b { b with nets := ns' } g st hregs hwrites (fun _ _ _ => rfl) (fun r n hn => ?_)
    (fun n hn => ?_)
  · obtain ⟨hmem, hop, _⟩ := regNetOf_some hn
    obtain ⟨a, ha⟩ := hreg n hmem hop
    rw [ha]
    exact hread n hmem (by rw [hop]; rfl) a (by simp [ha])
  · rw [← writeNets_stateNets] at hn
    obtain ⟨hmem, hc⟩ := List.mem_filter.mp (List.mem_filter.mp hn).1
    exact hread n hmem (by simpa using hc)

namespace Dco

/-- Every pass uses it (the lowering passes as `LowerNet.AgreeRuns`, its instance at the wires below a size); it stands in
    `Dco` because the statements of C04 and C09 name it so. -/
def AgreeOn (P : Nat → Prop) : List Env → List Env → Prop
  | [], [] => True
  | e' :: r', e :: r => (∀ w, P w → e' w = e w) ∧ AgreeOn P r' r
  | _, _ => False

theorem AgreeOn.refl {P : Nat → Prop} {l : List Env} : AgreeOn P l l := by
  induction l with
  | nil => trivial
  | cons e r ih => exact ⟨fun _ _ => rfl, ih⟩

theorem AgreeOn.trans {P : Nat → Prop} : ∀ {l1 l2 l3 : List Env}, AgreeOn P l1 l2 → AgreeOn P l2 l3 → AgreeOn P l1 l3
  | [], [], [], _, _ => trivial
  | _ :: _, _ :: _, _ :: _, h12, h23 => ⟨fun w hw => (h12.1 w hw).trans (h23.1 w hw), h12.2.trans h23.2⟩
  | [], [], _ :: _, _, h => h.elim
  | [], _ :: _, _, h, _ => h.elim
  | _ :: _, [], _, h, _ => h.elim
  | _ :: _, _ :: _, [], _, h => h.elim

theorem AgreeOn.mono {P Q : Nat → Prop} (hPQ : ∀ w, Q w → P w) : ∀ {l1 l2 : List Env}, AgreeOn P l1 l2 → AgreeOn Q l1 l2
  | [], [], _ => trivial
  | _ :: _, _ :: _, h => ⟨fun w hw => h.1 w (hPQ w hw), h.2.mono hPQ⟩
  | [], _ :: _, h => h.elim
  | _ :: _, [], h => h.elim

theorem AgreeOn.run {K : Nat → Prop} {b b' : Block} {order order' : List Net} (Inv : State → List Env → Prop)
    (hstep : ∀ st inp rest, Inv st (inp :: rest) →
      ((∀ x, K x → (step b' order' st inp).1 x = (step b order st inp).1 x) ∧
        (step b' order' st inp).2 = (step b order st inp).2) ∧ Inv (step b order st inp).2 rest)
    (inps : List Env) (st : State) (h : Inv st inps) :
    AgreeOn K (run b' order' st inps) (run b order st inps) := by
  induction inps generalizing st with
  | nil => trivial
  | cons inp rest ih =>
    obtain ⟨⟨h1, h2⟩, h3⟩ := hstep st inp rest h
    simp only [Pyrtl.run, AgreeOn]
    exact ⟨h1, by rw [h2]; exact ih _ h3⟩

theorem AgreeOn.run_of_step {K : Nat → Prop} {b b' : Block} {order order' : List Net}
    (hstep : ∀ st inp, (∀ x, K x → (step b' order' st inp).1 x = (step b order st inp).1 x) ∧
      (step b' order' st inp).2 = (step b order st inp).2) (inps : List Env) (st : State) :
    AgreeOn K (Pyrtl.run b' order' st inps) (Pyrtl.run b order st inps) :=
  AgreeOn.run (fun _ _ => True) (fun st inp _ _ => ⟨hstep st inp, trivial⟩) inps st trivial

end Dco

/-! Two of the Boolean checks the driver evaluates on a block give `hsingle` of `evalSeq_removed` and `hreg` of
`step_state_eq`. -/

theorem single_of_all {l : List Net} (h : l.all (fun n => l.all (fun m => !(n.dest == m.dest) || n == m)) = true) :
    ∀ n ∈ l, ∀ m ∈ l, n.dest = m.dest → n = m := by
  simp only [List.all_eq_true] at h
  intro n hn m hm hd
  simpa [hd] using h n hn m hm

theorem regArity_of_all {ns : List Net} (h : ns.all (fun n => !(n.op == .reg) || n.args.length == 1) = true) :
    ∀ n ∈ ns, n.op = .reg → ∃ a, n.args = [a] := by
  simp only [List.all_eq_true] at h
  intro n hn hop
  simpa [hop, List.length_eq_one_iff] using h n hn

end Pyrtl
