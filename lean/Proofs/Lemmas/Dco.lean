import Model.Pass.Dco
import Proofs.Lemmas.KeptRun
import Proofs.Lemmas.SpecVal
/-!
# `direct_connect_outputs` keeps the value of every wire it keeps

One round is an instance of `evalSeq_kept` with `K` = not `removedWire` (`round_eval`); the retargeted producer computes
the `w` net's value because truncation commutes with every primitive (`netFun_trunc`).  Rounds compose on the Outputs
(`dco_run`); the pass ends at a fixpoint (`dco_fixpoint`), which is its postcondition (`dco_post`).
-/
namespace Pyrtl.Dco

theorem comb_trunc (op : Op) (args : List (Nat × Nat)) (wx wo : Nat) (h : wo ≤ wx) :
    Spec.comb op args wx % 2 ^ wo = Spec.comb op args wo :=
  Spec.comb_trunc op args h

theorem netFun_trunc (b : Block) (st : State) (p : Net) (ds : List Nat) (vals : List Nat)
    (h : b.width (ds.headD 0) ≤ b.width p.dest) :
    netFun b st { p with dests := ds } vals = netFun b st p vals % 2 ^ b.width (ds.headD 0) := by
  simp only [netFun, Net.dest]
  split
  · exact (mod_mod_le h).symm
  · exact (comb_trunc _ _ _ _ h).symm

structure OutW (b : Block) (p w : Net) : Prop where
  comb : p.op.isComb = true
  mem : w ∈ b.nets
  readers : readers b p.dest = [w]
  op : w.op = .w
  args : w.args = [p.dest]
  output : b.kind w.dest = .output

theorem outW_spec {b : Block} {p w : Net} (h : outW? b p = some w) : OutW b p w := by
  simp only [outW?, Option.ite_none_right_eq_some] at h
  obtain ⟨hc, h⟩ := h
  split at h
  · rename_i w' hr
    simp only [Option.ite_none_right_eq_some, Bool.and_eq_true, beq_iff_eq, decide_eq_true_eq, Option.some.injEq] at h
    obtain ⟨⟨⟨hop, hargs⟩, hout⟩, rfl⟩ := h
    have hmem : w' ∈ readers b p.dest := by rw [hr]; simp
    exact ⟨hc, (List.mem_filter.mp hmem).1, hr, hop, hargs, hout⟩
  · cases h

theorem dropped_iff {b : Block} {n : Net} : dropped b n = true ↔ ∃ p ∈ b.nets, outW? b p = some n := by
  simp only [dropped, List.any_eq_true, beq_iff_eq]

theorem removedWire_eq_false {b : Block} {x : Nat} :
    removedWire b x = false ↔ ∀ p ∈ b.nets, ∀ w, outW? b p = some w → p.dest ≠ x := by
  simp only [removedWire, List.any_eq_false, Bool.and_eq_true, beq_iff_eq, Option.isSome_iff_exists, not_and,
    forall_exists_index, ne_eq]

theorem mem_round {b : Block} {n' : Net} : n' ∈ (round b).nets ↔ ∃ n ∈ b.nets, roundNet b n = some n' := by
  simp only [round, List.mem_filterMap]

theorem roundNet_eq_some {b : Block} {n n' : Net} : roundNet b n = some n' ↔
    dropped b n = false ∧ (outW? b n = none ∧ n' = n ∨ ∃ w, outW? b n = some w ∧ n' = { n with dests := w.dests }) := by
  unfold roundNet
  cases dropped b n <;> cases outW? b n <;> simp [eq_comm]

/-- what the proofs need from the block (all enforced by `Block.sanity_check`) -/
structure DcoWF (b : Block) : Prop where
  outputs_not_read : ∀ n ∈ b.nets, ∀ a ∈ n.args, b.kind a ≠ .output
  single_driver : ∀ n ∈ b.nets, ∀ m ∈ b.nets, n.op.isComb = true → m.op.isComb = true → n.dest = m.dest → n = m
  wwidth : ∀ n ∈ b.nets, n.op = .w → ∀ a, n.args = [a] → b.width n.dest ≤ b.width a
  reg_arity : ∀ n ∈ b.nets, n.op = .reg → ∃ a, n.args = [a]

theorem output_not_removed {b : Block} (hwf : DcoWF b) {o : Nat} (ho : b.kind o = .output) :
    removedWire b o = false :=
  removedWire_eq_false.mpr fun p _ w hw hpo =>
    hwf.outputs_not_read w (outW_spec hw).mem p.dest (by simp [(outW_spec hw).args]) (hpo ▸ ho)

theorem kept_dest_not_removed {b : Block} (hwf : DcoWF b) {n : Net} (hn : n ∈ b.nets) (hc : n.op.isComb = true)
    (hnone : outW? b n = none) : removedWire b n.dest = false :=
  removedWire_eq_false.mpr fun p hp w hw hpd => by
    rw [hwf.single_driver p hp n hn (outW_spec hw).comb hc hpd, hnone] at hw
    cases hw

theorem args_not_removed {b : Block} {n : Net} (hn : n ∈ b.nets) (hnd : dropped b n = false) :
    ∀ a ∈ n.args, removedWire b a = false := fun a ha =>
  removedWire_eq_false.mpr fun p hp w hw hpa => by
    have hr : n ∈ readers b p.dest := by simp [readers, hn, hpa, ha]
    rw [(outW_spec hw).readers, List.mem_singleton] at hr
    rw [dropped_iff.mpr ⟨p, hp, hr ▸ hw⟩] at hnd
    cases hnd

theorem round_eval {b : Block} (hwf : DcoWF b) (st : State) {order order' : List Net} (e : Env)
    (ho : ∀ n, n ∈ order ↔ (n ∈ b.nets ∧ n.op.isComb = true)) (hto : Topo order order [])
    (ho' : ∀ n, n ∈ order' ↔ (n ∈ (round b).nets ∧ n.op.isComb = true)) (hto' : Topo order' order' []) :
    ∀ x, removedWire b x = false → evalNets (round b) st order' e x = evalNets b st order e x := by
  have c := evalSeq_consistent (netFun b st) order e hto
  refine evalSeq_kept (netFun b st) e (removedWire b · = false) hto hto' (fun n' hn' => ?_)
    (fun n hn hK => ?_)
  · -- a net of the round is a net of `b` kept as it is, or the producer retargeted at the Output
    obtain ⟨hmem', hc'⟩ := (ho' n').mp hn'
    obtain ⟨n, hn, hrn⟩ := mem_round.mp hmem'
    obtain ⟨hd, hkept⟩ := roundNet_eq_some.mp hrn
    have hargs_nr := args_not_removed hn hd
    rcases hkept with ⟨hout, rfl⟩ | ⟨w, hout, rfl⟩
    · exact ⟨kept_dest_not_removed hwf hn hc' hout, hargs_nr, c.1 n' ((ho n').mpr ⟨hn, hc'⟩)⟩
    · have hw := outW_spec hout
      refine ⟨output_not_removed hwf hw.output, hargs_nr, ?_⟩
      -- the `w` net truncated the producer's value; the retargeted producer computes it truncated
      show evalSeq (netFun b st) order e w.dest = _
      rw [netFun_trunc b st n w.dests _ (hwf.wwidth w hw.mem hw.op n.dest hw.args),
        ← c.1 n ((ho n).mpr ⟨hn, hw.comb⟩), c.1 w ((ho w).mpr ⟨hw.mem, by rw [hw.op]; rfl⟩)]
      exact netFun_w b st hw.op hw.args _
  · obtain ⟨hnm, hnc⟩ := (ho n).mp hn
    cases hd : dropped b n with
    | true =>
      -- `n` is the dropped `w` net: its producer, retargeted, drives the Output in the new netlist
      obtain ⟨p, hp, hpw⟩ := dropped_iff.mp hd
      have hw := outW_spec hpw
      have hpd : dropped b p = false := Bool.eq_false_iff.mpr fun hdp => by
        obtain ⟨q, hq, hqp⟩ := dropped_iff.mp hdp
        exact hwf.outputs_not_read n hw.mem p.dest (by simp [hw.args]) (outW_spec hqp).output
      have hmem' : ({ p with dests := n.dests } : Net) ∈ (round b).nets :=
        mem_round.mpr ⟨p, hp, roundNet_eq_some.mpr ⟨hpd, .inr ⟨n, hpw, rfl⟩⟩⟩
      exact ⟨_, (ho' _).mpr ⟨hmem', hw.comb⟩, rfl⟩
    | false =>
      cases hout : outW? b n with
      | none =>
        exact ⟨n, (ho' n).mpr ⟨mem_round.mpr ⟨n, hnm, roundNet_eq_some.mpr ⟨hd, .inl ⟨hout, rfl⟩⟩⟩, hnc⟩, rfl⟩
      | some w => exact absurd rfl (removedWire_eq_false.mp hK n hnm w hout)

theorem not_dropped (b : Block) {n : Net} (hc : n.op.isComb = false) : dropped b n = false :=
  Bool.eq_false_iff.mpr fun hd => by
    obtain ⟨p, _, hpw⟩ := dropped_iff.mp hd
    rw [(outW_spec hpw).op] at hc
    cases hc

theorem roundNet_noncomb (b : Block) {n : Net} (hc : n.op.isComb = false) : roundNet b n = some n := by
  simp [roundNet, not_dropped b hc, outW?, hc]

theorem roundNet_op {b : Block} {n n' : Net} (h : roundNet b n = some n') : n'.op = n.op := by
  obtain ⟨_, ⟨_, rfl⟩ | ⟨_, _, rfl⟩⟩ := roundNet_eq_some.mp h <;> rfl

theorem stateNets_round (b : Block) : stateNets (round b).nets = stateNets b.nets := by
  simp only [round, stateNets, List.filter_filterMap, ← List.filterMap_eq_filter]
  congr 1
  funext n
  cases hc : n.op.isComb with
  | false => simp [roundNet_noncomb b hc, Option.guard, hc]
  | true =>
    cases hr : roundNet b n with
    | none => simp [Option.guard, hc]
    | some n' => simp [Option.guard, hc, roundNet_op hr]

theorem round_step {b : Block} (hwf : DcoWF b) {order order' : List Net}
    (ho : ∀ n, n ∈ order ↔ (n ∈ b.nets ∧ n.op.isComb = true)) (hto : Topo order order [])
    (ho' : ∀ n, n ∈ order' ↔ (n ∈ (round b).nets ∧ n.op.isComb = true)) (hto' : Topo order' order' [])
    (st : State) (inp : Env) :
    (∀ x, removedWire b x = false → (step (round b) order' st inp).1 x = (step b order st inp).1 x) ∧
    (step (round b) order' st inp).2 = (step b order st inp).2 := by
  have henv := round_eval hwf st (baseEnv b st inp) ho hto ho' hto'
  refine ⟨henv, step_state_eq id ?_ hwf.reg_arity
    fun n hn hc a ha => henv a (args_not_removed hn (not_dropped b hc) a ha)⟩
  rw [Net.rename_id, List.map_id]
  exact stateNets_round b

theorem dcoWfB_sound {b : Block} (h : dcoWfB b = true) : DcoWF b := by
  simp only [dcoWfB, Bool.and_eq_true] at h
  obtain ⟨⟨⟨⟨h1, h2⟩, h3⟩, _⟩, h5⟩ := h
  simp only [List.all_eq_true] at h1 h2 h3
  refine ⟨?_, ?_, ?_, regArity_of_all h5⟩
  · intro n hn a ha hk
    have := h1 n hn a ha
    simp [hk] at this
  · intro n hn m hm hnc hmc hd
    have := h2 n hn m hm
    simpa [hnc, hmc, hd] using this
  · intro n hn hop a hargs
    have := h3 n hn
    simpa [hop, hargs] using this

theorem orderOkB_sound {b : Block} (h : orderOkB b = true) :
    (∀ n, n ∈ orderOf b ↔ (n ∈ b.nets ∧ n.op.isComb = true)) ∧ Topo (orderOf b) (orderOf b) [] := by
  simp only [orderOkB, Bool.and_eq_true, List.all_eq_true, List.contains_eq_mem, decide_eq_true_eq] at h
  obtain ⟨⟨h1, h2⟩, h3⟩ := h
  refine ⟨fun n => ⟨fun hn => ?_, fun ⟨hn, hc⟩ => ?_⟩, isTopo_sound _ h1⟩
  · exact h2 n hn
  · have := h3 n hn
    simpa [hc] using this

theorem chainOkB_head {fuel : Nat} {b : Block} (h : chainOkB fuel b = true) :
    dcoWfB b = true ∧ orderOkB b = true := by
  cases fuel with
  | zero => simpa [chainOkB] using h
  | succ f =>
    simp only [chainOkB, Bool.and_eq_true] at h
    exact h.1

theorem dco_run {fuel : Nat} {b : Block} (h : chainOkB fuel b = true) (st : State) (inps : List Env) :
    AgreeOn (fun x => b.kind x = .output)
      (run (dco fuel b) (orderOf (dco fuel b)) st inps) (run b (orderOf b) st inps) := by
  induction fuel generalizing b with
  | zero => exact AgreeOn.refl
  | succ f ih =>
    obtain ⟨hwfB, hordB⟩ := chainOkB_head h
    simp only [dco]
    split
    · exact AgreeOn.refl
    · rename_i hlen
      have hrest : chainOkB f (round b) = true := by simpa [chainOkB, hwfB, hordB, hlen] using h
      have hwf := dcoWfB_sound hwfB
      obtain ⟨ho, hto⟩ := orderOkB_sound hordB
      obtain ⟨ho', hto'⟩ := orderOkB_sound (chainOkB_head hrest).2
      have hround : AgreeOn (removedWire b · = false) _ _ :=
        AgreeOn.run_of_step (round_step hwf ho hto ho' hto') inps st
      -- `round b` has `b`'s wire table, so the induction hypothesis is about `b`'s Outputs
      exact (ih hrest).trans (hround.mono fun _ => output_not_removed hwf)

theorem dco_fixpoint (fuel : Nat) (b : Block) (h : b.nets.length < fuel) :
    (round (dco fuel b)).nets.length = (dco fuel b).nets.length := by
  induction fuel generalizing b with
  | zero => omega
  | succ f ih =>
    simp only [dco]
    split
    · rename_i heq
      simpa using heq
    · rename_i hne
      have hle : (round b).nets.length ≤ b.nets.length := by
        simp only [round]
        exact List.length_filterMap_le _ _
      have hne' : (round b).nets.length ≠ b.nets.length := by simpa using hne
      exact ih (round b) (by omega)

theorem dco_post (b : Block) :
    ∀ p ∈ (directConnectOutputs b).nets, outW? (directConnectOutputs b) p = none := by
  intro p hp
  have hfix := dco_fixpoint (b.nets.length + 1) b (Nat.lt_add_one _)
  change (round (directConnectOutputs b)).nets.length = (directConnectOutputs b).nets.length at hfix
  cases hout : outW? (directConnectOutputs b) p with
  | none => rfl
  | some w =>
    exfalso
    have hsome := List.filterMap_length_eq_length.mp hfix w (outW_spec hout).mem
    simp [roundNet, dropped_iff.mpr ⟨p, hp, hout⟩] at hsome

end Pyrtl.Dco
