import Model.Lib.SeqMult
import Mathlib.Tactic.Ring
/-! The shift-and-add multiplier keeps `acc + a * b` equal to the product modulo the register width, and
its `a` register is the operand shifted right once per idle cycle. -/
namespace Pyrtl.SeqMult

def Inv (M P : Nat) (st : St) : Prop := st.acc < M ∧ (st.acc + st.a * st.b) % M = P % M

theorem start_inv {alen blen s : Nat} (A B : Nat) (st0 : St) :
    Inv (2 ^ (alen + blen)) (A * B) (step alen blen s st0 true A B) := by
  simp [step, Inv]

theorem step_inv {alen blen s P : Nat} {st : St} (x y : Nat) (h : Inv (2 ^ (alen + blen)) P st) :
    Inv (2 ^ (alen + blen)) P (step alen blen s st false x y) := by
  unfold step
  by_cases ha : st.a = 0
  · simpa [ha] using h
  · simp only [Bool.false_eq_true, if_false, ha, ne_eq, not_false_eq_true, if_true]
    refine ⟨Nat.mod_lt _ (Nat.two_pow_pos _), ?_⟩
    rw [← h.2]
    generalize 2 ^ (alen + blen) = M
    -- `a = a % 2^s + 2^s * (a / 2^s)`: the low bits are added in this step, the rest meets `b` shifted left
    have e : st.acc + st.a * st.b = st.acc + st.a % 2 ^ s * st.b + st.a / 2 ^ s * (st.b * 2 ^ s) := by
      conv_lhs => rw [← Nat.mod_add_div st.a (2 ^ s)]
      ring
    rw [e]
    simp only [Nat.add_mod, Nat.mul_mod, Nat.mod_mod]

theorem idle_inv {alen blen s P : Nat} (ops : List (Nat × Nat)) {st : St} (h : Inv (2 ^ (alen + blen)) P st) :
    Inv (2 ^ (alen + blen)) P (idle alen blen s st ops) := by
  induction ops generalizing st with
  | nil => exact h
  | cons o rest ih => exact ih (step_inv o.1 o.2 h)

theorem Inv.done_acc {M P : Nat} {st : St} (h : Inv M P st) (hP : P < M) (hz : st.a = 0) : st.acc = P := by
  have := h.2
  rwa [hz, Nat.zero_mul, Nat.add_zero, Nat.mod_eq_of_lt h.1, Nat.mod_eq_of_lt hP] at this

theorem step_a (alen blen s : Nat) (st : St) (x y : Nat) :
    (step alen blen s st false x y).a = st.a / 2 ^ s := by
  unfold step
  by_cases h : st.a = 0 <;> simp [h]

theorem idle_a (alen blen s : Nat) (ops : List (Nat × Nat)) (st : St) :
    (idle alen blen s st ops).a = st.a / 2 ^ (s * ops.length) := by
  induction ops generalizing st with
  | nil => simp [idle]
  | cons o rest ih =>
    have := ih (step alen blen s st false o.1 o.2)
    simp only [idle, List.foldl_cons, List.length_cons] at this ⊢
    rw [this, step_a, Nat.div_div_eq_div_mul, ← Nat.pow_add, Nat.mul_succ, Nat.add_comm]

end Pyrtl.SeqMult
