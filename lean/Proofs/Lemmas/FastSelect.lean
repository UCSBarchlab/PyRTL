import Proofs.Lemmas.FastSimOps
import Mathlib.Tactic.Ring
/-!
# FastSimulation's `s` emitter: OR of shifted, masked runs = the documented bit selection
-/
namespace Pyrtl.FastSim
open Pyrtl.Gen.FastEmit

theorem piece_nat {arglen a s L : Nat} (r : Nat) (ha : a < 2 ^ arglen) (hq : s + L ≤ arglen) :
    piece arglen (a : Int) ⟨s, L, r⟩ = ((Spec.selectVal (List.range' s L) a * 2 ^ r : Nat) : Int) := by
  simp only [piece, Spec.selectVal_range', split_cond0, split_cond1, split_bit0, split_bit1, split_bit2, shl_one_sub,
    pyShr_nat, mask_and_nat, decide_eq_true_eq]
  split
  · obtain rfl : s = 0 := by omega
    rw [Nat.pow_zero, Nat.div_one]
    exact shiftL_nat
  · split
    · -- the run ends at the top bit of the argument: the shifted value needs no mask
      rw [Nat.mod_eq_of_lt (div_two_pow_lt (lt_two_pow_of_le ha (by omega)))]
      exact shiftL_nat
    · exact shiftL_nat

theorem or_piece {acc v r : Nat} (hacc : acc < 2 ^ r) :
    pyOr (acc : Int) ((v * 2 ^ r : Nat) : Int) = ((acc + v * 2 ^ r : Nat) : Int) := by
  rw [pyOr_nat, Nat.or_comm, shl_or_eq_add hacc, Nat.add_comm]

theorem add_piece_lt {acc v r L : Nat} (hacc : acc < 2 ^ r) (hv : v < 2 ^ L) : acc + v * 2 ^ r < 2 ^ (r + L) := by
  rw [Nat.pow_add, Nat.mul_comm v]
  exact add_mul_lt hacc hv

/-- the loop invariant of the emitter: the finished runs are OR-ed into `acc`, below bit `r`; the open run `s, L` and
    the indices still to come are what remains to be placed, from bit `r` on -/
theorem foldl_runs {arglen a : Nat} (ha : a < 2 ^ arglen) :
    ∀ (rest : List Nat) (s L r acc : Nat), acc < 2 ^ r → s + L ≤ arglen → (∀ b ∈ rest, b < arglen) →
      (runsFrom rest s L r).foldl (fun acc q => pyOr acc (piece arglen (a : Int) q)) (acc : Int)
        = ((acc + 2 ^ r * Spec.selectVal (List.range' s L ++ rest) a : Nat) : Int) := by
  intro rest
  induction rest with
  | nil =>
    intro s L r acc hacc hsl _
    rw [runsFrom, List.foldl_cons, List.foldl_nil, piece_nat r ha hsl, or_piece hacc,
      List.append_nil, Nat.mul_comm]
  | cons b rest ih =>
    intro s L r acc hacc hsl hb
    obtain ⟨hba, hb'⟩ := List.forall_mem_cons.mp hb
    unfold runsFrom
    split
    · subst b
      rw [ih s (L + 1) r acc hacc (Nat.succ_le_of_lt hba) hb', List.range'_1_concat, List.append_assoc,
        List.singleton_append]
    · have hlt := Spec.selectVal_lt (List.range' s L) a
      rw [List.length_range'] at hlt
      rw [List.foldl_cons, piece_nat r ha hsl, or_piece hacc,
        ih b 1 (r + L) _ (add_piece_lt hacc hlt) (Nat.succ_le_of_lt hba) hb', List.range'_one, List.singleton_append,
        Spec.selectVal_append (List.range' s L), List.length_range', Nat.pow_add]
      congr 1
      ring

theorem selectExpr_foldl (arglen : Nat) (src : Int) (rs : List Run) :
    selectExpr arglen src rs = rs.foldl (fun acc q => pyOr acc (piece arglen src q)) 0 := by
  cases rs with
  | nil => rfl
  | cons q qs => simp only [selectExpr, List.foldl_cons, pyOr_zero_left]

theorem selectExpr_eq {arglen a : Nat} {idx : List Nat} (ha : a < 2 ^ arglen) (hi : ∀ b ∈ idx, b < arglen) :
    selectExpr arglen (a : Int) (runs idx) = ((Spec.selectVal idx a : Nat) : Int) := by
  cases idx with
  | nil => rfl
  | cons b rest =>
    obtain ⟨hb, hi⟩ := List.forall_mem_cons.mp hi
    have hfold := foldl_runs ha rest b 1 0 0 (Nat.two_pow_pos 0) (Nat.succ_le_of_lt hb) hi
    rw [Int.natCast_zero] at hfold
    rw [selectExpr_foldl, runs, hfold, List.range'_one, List.singleton_append, Nat.pow_zero, Nat.one_mul, Nat.zero_add]

end Pyrtl.FastSim
