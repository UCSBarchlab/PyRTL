import Proofs.Lemmas.Adders
import Mathlib.Data.List.GetD
/-! Kogge-Stone returns, bit for bit, what the ripple adder returns.  Positions are functions
`α β : Nat → Bool`; `carry i` is the rippled carry into position `i`.  The loop invariant relates the
generate/propagate bits at prefix distance `s` to these carries only. -/
namespace Pyrtl.Adders.KS
open Pyrtl.Synth

variable (α β : Nat → Bool) (cin : Bool)

def p (i : Nat) : Bool := xor (α i) (β i)
def g (i : Nat) : Bool := α i && β i

def carry : Nat → Bool
  | 0 => cin
  | i + 1 => g α β i || (p α β i && carry i)

theorem addHelper_map_range (n : Nat) :
    addHelper ((List.range n).map α) ((List.range n).map β) cin
      = ((List.range n).map fun i => xor (carry α β cin i) (p α β i), carry α β cin n) := by
  induction n with
  | zero => rfl
  | succ n ih =>
    have hc : (oneBitAdd (α n) (β n) (carry α β cin n)) = (xor (carry α β cin n) (p α β n), carry α β cin (n + 1)) :=
      Prod.ext (Bool.xor_comm _ _) (oneBitAdd_carry _ _ _)
    simp only [List.range_succ, List.map_append, List.map_cons, List.map_nil]
    rw [addHelper_append _ _ _ _ _ (by simp), ih]
    simp [addHelper, hc]

/-- the state of the loop at prefix distance `s`: below `s` the generate bits are the carries out of their
    positions; from `s` on, the pair at position `j+s` spans the `s` positions `j+1 … j+s`: it turns the carry
    into `j+1` into the carry out of `j+s` -/
structure KInv (n s : Nat) (gen prop : List Bool) : Prop where
  glen : gen.length = n
  low : ∀ i, i < s → i < n → gen.getD i false = carry α β cin (i + 1)
  high : ∀ j, j + s < n →
    carry α β cin (j + s + 1) = (gen.getD (j + s) false || (prop.getD (j + s) false && carry α β cin (j + 1)))

theorem getD_map_range {n i : Nat} {f : Nat → Bool} (h : i < n) :
    ((List.range n).map f).getD i false = f i := by
  simp [List.getD, h]

variable {α β cin}

theorem ksRound_inv {n s : Nat} {gen prop : List Bool} (h : KInv α β cin n s gen prop) :
    KInv α β cin n (s + s) (ksRound s gen prop).1 (ksRound s gen prop).2 := by
  obtain ⟨hg, lo, hi⟩ := h
  refine ⟨by simp only [ksRound, hg, List.length_map, List.length_range], fun i h2 hn => ?_, fun j hn => ?_⟩
  · simp only [ksRound, hg, getD_map_range hn]
    split
    · obtain ⟨j, rfl⟩ := Nat.exists_eq_add_of_le' ‹i ≥ s›
      rw [Nat.add_sub_cancel, hi j hn, lo j (by omega) (by omega)]
    · exact lo i (by omega) hn
  · simp only [ksRound, hg, getD_map_range hn]
    rw [if_pos (by omega), if_pos (by omega), ← Nat.add_assoc, Nat.add_sub_cancel, hi (j + s) (by omega),
      hi j (by omega), Bool.and_or_distrib_left, Bool.or_assoc, Bool.and_assoc]

theorem eq_map_range {l : List Bool} {n : Nat} {f : Nat → Bool} (hl : l.length = n)
    (h : ∀ i, i < n → l.getD i false = f i) : l = (List.range n).map f := by
  apply List.ext_getElem
  · simp [hl]
  · intro i h1 h2
    rw [← List.getD_eq_getElem _ false h1, h i (hl ▸ h1)]
    simp

theorem KInv.done {n s : Nat} {gen prop : List Bool} (h : KInv α β cin n s gen prop) (hs : n ≤ s) :
    gen = (List.range n).map fun i => carry α β cin (i + 1) :=
  eq_map_range h.glen fun i hi => h.low i (by omega) hi

theorem ksLoop_spec {n fuel d : Nat} {gen prop : List Bool} (h : KInv α β cin n d gen prop) (hd : 0 < d)
    (hf : n + 1 ≤ fuel + d) : ksLoop fuel d gen prop = (List.range n).map fun i => carry α β cin (i + 1) := by
  induction fuel generalizing d gen prop with
  | zero => exact h.done (by omega)
  | succ fuel ih =>
    unfold ksLoop
    split
    · exact ih (Nat.mul_two d ▸ ksRound_inv h) (by omega) (by omega)
    · exact h.done (by have := h.glen; omega)

theorem zipWith_map_range (α β : Nat → Bool) (f : Bool → Bool → Bool) (n : Nat) :
    List.zipWith f ((List.range n).map α) ((List.range n).map β) = (List.range n).map fun i => f (α i) (β i) := by
  simp [List.zipWith_map_left, List.zipWith_map_right]

theorem getD_cinInsert (l m : List Bool) (c : Bool) (h : l.length = m.length) :
    let r := match l, m with
      | g :: gs, p :: _ => (g || (p && c)) :: gs
      | l, _ => l
    r.length = l.length ∧ r.getD 0 false = (l.getD 0 false || (m.getD 0 false && c)) ∧
      ∀ i, r.getD (i + 1) false = l.getD (i + 1) false := by
  cases l <;> cases m <;> simp_all

/-- the statement copies the body of `koggeStone` after the zero extension, so that it applies by unfolding -/
theorem ks_core {a b : List Bool} (cin : Bool) {n : Nat} (ha : a.length = n) (hb : b.length = n) :
    let prop := List.zipWith xor a b
    let gen0 := List.zipWith (· && ·) a b
    let gen := match gen0, prop with
      | g :: gs, p :: _ => (g || (p && cin)) :: gs
      | l, _ => l
    List.zipWith xor (cin :: ksLoop (n + 1) 1 gen prop) (prop ++ [false])
      = (addHelper a b cin).1 ++ [(addHelper a b cin).2] := by
  obtain ⟨α, rfl⟩ : ∃ α, a = (List.range n).map α := ⟨_, eq_map_range ha fun _ _ => rfl⟩
  obtain ⟨β, rfl⟩ : ∃ β, b = (List.range n).map β := ⟨_, eq_map_range hb fun _ _ => rfl⟩
  intro prop gen0 gen
  have hprop : prop = (List.range n).map (p α β) := zipWith_map_range α β xor n
  have hgen0 : gen0 = (List.range n).map (g α β) := zipWith_map_range α β (· && ·) n
  obtain ⟨hl, h0, hS⟩ := getD_cinInsert gen0 prop cin (by simp [hprop, hgen0])
  have hinv : KInv α β cin n 1 gen prop := by
    refine ⟨by rw [hl, hgen0]; simp, fun i hi hn => ?_, fun i hn => ?_⟩
    · obtain rfl : i = 0 := by omega
      rw [h0, hgen0, hprop, getD_map_range hn, getD_map_range hn]
      rfl
    · rw [hS i, hgen0, hprop, getD_map_range hn, getD_map_range hn]
      rfl
  have hcs : cin :: (List.range n).map (fun i => carry α β cin (i + 1))
      = (List.range n).map (carry α β cin) ++ [carry α β cin n] := by
    rw [← List.map_singleton (f := carry α β cin), ← List.map_append, ← List.range_succ, List.range_succ_eq_map]
    simp [carry]
  rw [ksLoop_spec hinv (by omega) (by omega), hcs, hprop,
    List.zipWith_append (by simp), zipWith_map_range, List.zipWith_cons_cons, List.zipWith_nil_left,
    Bool.xor_false, addHelper_map_range]

theorem koggeStone_eq (a b : List Bool) (cin : Bool) : koggeStone a b cin = rippleRef a b cin :=
  ks_core cin (zext_max_length a b).1 (zext_max_length a b).2

end Pyrtl.Adders.KS
