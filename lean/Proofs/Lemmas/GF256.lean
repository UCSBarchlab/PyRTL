import Model.Lib.Fips197
/-!
# GF(2^8) as FIPS-197 computes it: `gmul` is commutative and associative on bytes

`gmul a b` is the xor of the `xtime`-iterates of `a` that the bits of `b` select, so a map that is additive on bytes
and commutes with `xtime` moves from the product to `a` (`gmulAux_map`): `xtime` itself, hence `(gmul · c)`, which
says `(a b) c = (a c) b`; with `1 a = a` that is commutativity and associativity.  Hence the power law for `gpow`,
and `ginv a = a^254` along the addition chain 1 2 3 6 12 15 30 60 63 126 127 254 (11 `gmul`) instead of 254, which is
what makes the comparison of the whole S-box with its definition cheap for the kernel.  Facts about single bytes are
settled by evaluation.
-/
namespace Pyrtl.Fips197

theorem xtime_lt : ∀ a < 256, xtime a < 256 := by decide +kernel

theorem xtime_eq {a : Nat} (ha : a < 256) : xtime a = a * 2 ^^^ 0x11b * (a / 128) := by
  unfold xtime
  by_cases h : 128 ≤ a
  · rw [if_pos (Nat.mul_le_mul_right 2 h), Nat.div_eq_of_lt_le (k := 1) h ha, Nat.mul_one]
  · rw [if_neg (by omega), Nat.div_eq_of_lt (Nat.lt_of_not_le h), Nat.mul_zero, Nat.xor_zero]

theorem xtime_xor (a b : Nat) (ha : a < 256) (hb : b < 256) : xtime (a ^^^ b) = xtime a ^^^ xtime b := by
  have hs : (a ^^^ b) * 2 = a * 2 ^^^ b * 2 := by
    simpa [Nat.shiftLeft_eq] using Nat.shiftLeft_xor_distrib (a := a) (b := b) (i := 1)
  have hm : ∀ x < 2, ∀ y < 2, 0x11b * (x ^^^ y : Nat) = 0x11b * x ^^^ 0x11b * y := by decide
  rw [xtime_eq (Nat.xor_lt_two_pow (n := 8) ha hb), xtime_eq ha, xtime_eq hb,
    Nat.xor_div_two_pow (n := 7), hs, hm _ (Nat.div_lt_of_lt_mul ha) _ (Nat.div_lt_of_lt_mul hb)]
  ac_rfl

theorem gmulAux_acc (k a b acc : Nat) : gmulAux k a b acc = acc ^^^ gmulAux k a b 0 := by
  induction k generalizing a b acc with
  | zero => simp [gmulAux]
  | succ k ih =>
    simp only [gmulAux]
    rw [ih _ _ (if b % 2 = 1 then acc ^^^ a else acc), ih _ _ (if b % 2 = 1 then 0 ^^^ a else 0)]
    split <;> simp [Nat.xor_assoc]

theorem gmulAux_succ (k a b : Nat) :
    gmulAux (k + 1) a b 0 = (if b % 2 = 1 then a else 0) ^^^ gmulAux k (xtime a) (b / 2) 0 := by
  simp only [gmulAux]
  rw [gmulAux_acc]
  simp

theorem gmulAux_lt {k a b : Nat} (ha : a < 256) : gmulAux k a b 0 < 256 := by
  induction k generalizing a b with
  | zero => simp [gmulAux]
  | succ k ih =>
    rw [gmulAux_succ]
    refine Nat.xor_lt_two_pow (n := 8) ?_ (ih (xtime_lt a ha))
    split <;> omega

theorem gmulAux_xor_left {k a a' b : Nat} (ha : a < 256) (ha' : a' < 256) :
    gmulAux k (a ^^^ a') b 0 = gmulAux k a b 0 ^^^ gmulAux k a' b 0 := by
  induction k generalizing a a' b with
  | zero => simp [gmulAux]
  | succ k ih =>
    simp only [gmulAux_succ, xtime_xor a a' ha ha', ih (xtime_lt a ha) (xtime_lt a' ha')]
    split
    · ac_rfl
    · simp

theorem gmul_lt (a b : Nat) (ha : a < 256) : gmul a b < 256 := gmulAux_lt ha

theorem gmul_xor_left (a a' b : Nat) (ha : a < 256) (ha' : a' < 256) :
    gmul (a ^^^ a') b = gmul a b ^^^ gmul a' b := gmulAux_xor_left ha ha'

theorem gmulAux_map {T : Nat → Nat} (hadd : ∀ x y, x < 256 → y < 256 → T (x ^^^ y) = T x ^^^ T y)
    (hx : ∀ x < 256, xtime (T x) = T (xtime x)) (k a b : Nat) (ha : a < 256) :
    T (gmulAux k a b 0) = gmulAux k (T a) b 0 := by
  have h0 : T 0 = 0 := by simpa using hadd 0 0
  induction k generalizing a b with
  | zero => exact h0
  | succ k ih =>
    rw [gmulAux_succ, gmulAux_succ, hx a ha, ← ih _ _ (xtime_lt a ha)]
    split
    · exact hadd _ _ ha (gmulAux_lt (xtime_lt a ha))
    · simp

theorem gmul_xtime_left (a b : Nat) (ha : a < 256) : xtime (gmul a b) = gmul (xtime a) b :=
  gmulAux_map xtime_xor (fun _ _ => rfl) 8 a b ha

theorem gmul_right_comm (a b c : Nat) (ha : a < 256) : gmul (gmul a b) c = gmul (gmul a c) b :=
  gmulAux_map (T := (gmul · c)) (gmul_xor_left · · c) (gmul_xtime_left · c) 8 a b ha

theorem gmul_one : ∀ a < 256, gmul 1 a = a := by decide +kernel

theorem gmul_comm (a b : Nat) (ha : a < 256) (hb : b < 256) : gmul a b = gmul b a :=
  calc gmul a b = gmul (gmul 1 a) b := by rw [gmul_one a ha]
    _ = gmul (gmul 1 b) a := gmul_right_comm 1 a b (by decide)
    _ = gmul b a := by rw [gmul_one b hb]

theorem gmul_assoc (a b c : Nat) (ha : a < 256) (hb : b < 256) : gmul (gmul a b) c = gmul a (gmul b c) := by
  rw [gmul_comm a b ha hb, gmul_right_comm b a c hb, gmul_comm _ a (gmul_lt b c hb) ha]

theorem gpow_lt (a n : Nat) (ha : a < 256) : gpow a n < 256 := by
  cases n with
  | zero => show 1 < 256; decide
  | succ n => exact gmul_lt a _ ha

theorem gpow_add (a m n : Nat) (ha : a < 256) : gpow a (m + n) = gmul (gpow a m) (gpow a n) := by
  induction m with
  | zero => rw [Nat.zero_add]; exact (gmul_one _ (gpow_lt a n ha)).symm
  | succ m ih =>
    rw [Nat.succ_add]
    simp only [gpow]
    rw [ih, gmul_assoc a _ _ ha (gpow_lt a m ha)]

def ginvChain (a : Nat) : Nat :=
  let a3 := gmul (gmul a a) a
  let a6 := gmul a3 a3
  let a12 := gmul a6 a6
  let a15 := gmul a12 a3
  let a30 := gmul a15 a15
  let a60 := gmul a30 a30
  let a63 := gmul a60 a3
  let a126 := gmul a63 a63
  let a127 := gmul a126 a
  gmul a127 a127

theorem ginv_eq_chain (a : Nat) (ha : a < 256) : ginv a = ginvChain a := by
  have h1 : gpow a 1 = a := by simp only [gpow, gmul_comm a 1 ha (by decide), gmul_one a ha]
  show gpow a 254 = _
  rw [gpow_add a 127 127 ha, gpow_add a 126 1 ha, gpow_add a 63 63 ha, gpow_add a 60 3 ha, gpow_add a 30 30 ha,
    gpow_add a 15 15 ha, gpow_add a 12 3 ha, gpow_add a 6 6 ha, gpow_add a 3 3 ha, gpow_add a 2 1 ha,
    gpow_add a 1 1 ha, h1]
  rfl

theorem sbox_eq_chain (a : Nat) (ha : a < 256) : sbox a = affine (ginvChain a) := by
  rw [sbox, ginv_eq_chain a ha]

end Pyrtl.Fips197
