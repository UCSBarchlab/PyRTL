import Proofs.Lemmas.LowerNet
/-!
# The lowered schedule is a dependency order of the lowered block

Along the schedule a wire is done in the lowered schedule only if the net it belongs to is done in the original one
(`owner`: a temporary belongs to the net whose gadget it serves), so what replaces the next net writes no done wire.
-/
namespace Pyrtl.LowerNet

theorem body_topo {all' : List Net} {nargs : List Nat} {t : Nat} :
    ∀ {body : List Net} {i : Nat} {done : List Nat}, bodyOk nargs t body i = true →
      (∀ a ∈ nargs, a ∈ done ∨ ∀ m ∈ all', m.dest ≠ a) →
      (∀ x, t ≤ x → x < t + i + body.length → (x ∈ done ↔ x < t + i)) →
      Topo all' body done
  | [], _, _, _, _, _ => trivial
  | m :: ms, i, done, hok, hargs, hdone => by
    obtain ⟨hd, _, hma, hrest⟩ := bodyOk_cons.mp hok
    rw [List.length_cons] at hdone
    refine ⟨fun a ha => (hma a ha).elim (hargs a) fun h => Or.inl ((hdone a h.1 (Nat.lt_add_right _ h.2)).mpr h.2), ?_,
      body_topo hrest (fun a ha => (hargs a ha).imp (List.mem_cons_of_mem _) id) fun x h1 h2 => ?_⟩
    · rw [dest_of_dests hd, hdone _ (by omega) (by omega)]
      exact Nat.lt_irrefl _
    · rw [List.mem_cons, dest_of_dests hd, hdone x h1 (by omega)]
      omega

theorem gadget_topo {all' : List Net} {n : Net} {t k : Nat} {nets : List Net} {done : List Nat}
    (hs : gadgetShape n t k nets = true)
    (hargs : ∀ a ∈ n.args, a ∈ done ∨ ∀ m ∈ all', m.dest ≠ a)
    (hfresh : ∀ m ∈ nets, m.dest ∉ done) (hnd : n.dest < t) :
    Topo all' nets done := by
  obtain ⟨body, last, rfl, _, hld, hla, hlen, hb⟩ := gadgetShape_iff.mp hs
  have hbd := (bodyOk_spec hb).2
  refine topo_append (body_topo hb hargs fun x h1 h2 => ?_) ⟨fun a ha => ?_, ?_, trivial⟩
  · obtain ⟨m, hm, rfl⟩ := List.mem_map.mp ((hbd x).mpr ⟨h1, h2⟩)
    exact iff_of_false (hfresh m (List.mem_append_left _ hm)) (by omega)
  · rcases hla a ha with hin | ⟨h1, h2⟩
    · exact (hargs a hin).imp (List.mem_append_right _) id
    · exact Or.inl (List.mem_append_left _ (List.mem_reverse.mpr ((hbd a).mpr (by omega))))
  · intro hmem
    rcases List.mem_append.mp hmem with h | h
    · rw [List.mem_reverse, hbd, dest_of_dests hld] at h
      omega
    · exact hfresh last (by simp) h

theorem expand_topo {r : Rule} (hshape : RuleShape r) {b : Block} {n : Net} {all' : List Net} {done' : List Nat}
    (hargs : ∀ a ∈ n.args, a ∈ done' ∨ ∀ m ∈ all', m.dest ≠ a)
    (hfresh : ∀ m ∈ expand r b n, m.dest ∉ done') (hold : n.dest < b.wires.size) :
    Topo all' (expand r b n) done' := by
  unfold expand at hfresh ⊢
  cases hg : r b n with
  | none =>
    rw [hg] at hfresh
    exact ⟨hargs, hfresh n (by simp), trivial⟩
  | some g =>
    rw [hg] at hfresh
    exact gadget_topo (hshape b n g _ hg) hargs hfresh (Nat.lt_add_right _ hold)

def owner (r : Rule) (b : Block) (x : Nat) : Nat :=
  if x < b.wires.size then x else (x - b.wires.size) / stride r b

theorem owner_old (r : Rule) {b : Block} {x : Nat} (h : x < b.wires.size) : owner r b x = x := if_pos h

theorem owner_tmp {r : Rule} {b : Block} (d : Nat) {j : Nat} (hj : j < stride r b) :
    owner r b (base r b d + j) = d := by
  rw [owner, base, if_neg (by omega), Nat.add_assoc, Nat.add_sub_cancel_left, Nat.mul_add_div (Nat.zero_lt_of_lt hj),
    Nat.div_eq_of_lt hj, Nat.add_zero]

theorem expand_dests {r : Rule} (hshape : RuleShape r) {b : Block} {n : Net} (hn : n ∈ b.nets)
    (hold : n.dest < b.wires.size) :
    n.dest ∈ (expand r b n).map Net.dest ∧ ∀ m ∈ expand r b n, owner r b m.dest = n.dest := by
  unfold expand
  cases hg : r b n with
  | none => exact ⟨by simp, fun m hm => by rw [List.mem_singleton.mp hm, owner_old r hold]⟩
  | some g =>
    have hk := tmps_lt_stride hn hg
    have hd := (gadgetShape_spec (hshape b n g (base r b n.dest) hg)).2
    refine ⟨(hd _).mpr (Or.inl rfl), fun m hm => ?_⟩
    rcases (hd m.dest).mp (List.mem_map_of_mem hm) with h | ⟨h1, h2⟩
    · rw [h, owner_old r hold]
    · obtain ⟨j, hj⟩ := Nat.exists_eq_add_of_le h1
      rw [hj]
      exact owner_tmp n.dest (by omega)

theorem lower_topo_aux {r : Rule} (hshape : RuleShape r) {b : Block} {order : List Net}
    (hmem : ∀ n ∈ order, n ∈ b.nets) (hold : ∀ n ∈ order, NetOld b n) :
    ∀ {ns : List Net} {done done' : List Nat}, (∀ n ∈ ns, n ∈ order) → Topo order ns done →
      (∀ d ∈ done, d ∈ done') → (∀ x ∈ done', owner r b x ∈ done) →
      Topo (order.flatMap (expand r b)) (ns.flatMap (expand r b)) done' := by
  have hundriven : ∀ a, a < b.wires.size → (∀ m ∈ order, m.dest ≠ a) →
      ∀ m' ∈ order.flatMap (expand r b), m'.dest ≠ a := by
    intro a ha hno m' hm' hma
    obtain ⟨n, hn, hmn⟩ := List.mem_flatMap.mp hm'
    have := (expand_dests hshape (hmem n hn) (hold n hn).2).2 m' hmn
    rw [hma, owner_old r ha] at this
    exact hno n hn this.symm
  intro ns
  induction ns with
  | nil => intro _ _ _ _ _ _; trivial
  | cons n ns ih =>
    intro done done' hsub ⟨hargsT, hnd, hrest⟩ hdd hown
    obtain ⟨hnin, hsub⟩ := List.forall_mem_cons.mp hsub
    obtain ⟨holdA, holdD⟩ := hold n hnin
    obtain ⟨hself, hdests⟩ := expand_dests hshape (hmem n hnin) holdD
    rw [List.flatMap_cons]
    -- a wire `n` writes that is done already would belong to a done net: `n` itself
    refine topo_append
      (expand_topo hshape (fun a ha => ?_) (fun m hm h => hnd (hdests m hm ▸ hown _ h)) holdD)
      (ih hsub hrest
        (List.forall_mem_cons.mpr ⟨List.mem_append_left _ (List.mem_reverse.mpr hself),
          fun d hd => List.mem_append_right _ (hdd d hd)⟩)
        (List.forall_mem_append.mpr ⟨fun x hx => ?_, fun x hx => List.mem_cons_of_mem _ (hown x hx)⟩))
    · exact (hargsT a ha).elim (fun h => Or.inl (hdd a h)) (fun h => Or.inr (hundriven a (holdA a ha) h))
    · obtain ⟨m, hm, rfl⟩ := List.mem_map.mp (List.mem_reverse.mp hx)
      exact hdests m hm ▸ List.mem_cons_self

theorem lowerOrder_topo {r : Rule} (hshape : RuleShape r) {b : Block} {order : List Net}
    (hmem : ∀ n ∈ order, n ∈ b.nets) (hold : ∀ n ∈ order, NetOld b n) (hto : Topo order order []) :
    Topo (lowerOrder r b order) (lowerOrder r b order) [] :=
  lower_topo_aux hshape hmem hold (fun _ h => h) hto (fun _ h => h) (fun _ h => nomatch h)

/-- the order a simulator of the lowered block picks need not be the lowered schedule: any dependency order of the
    lowered nets will do -/
theorem lower_run_preserves_any_order {r : Rule} {Pre : Block → Net → Prop} (hr : RuleSound r Pre)
    (hshape : RuleShape r) {b : Block} (hwf : WF Pre b) {order : List Net} (hord : ∀ n ∈ order, n ∈ b.nets)
    (hto : Topo order order [])
    {order' : List Net} (hp : ∀ n, n ∈ order' ↔ n ∈ lowerOrder r b order) (hto' : Topo order' order' [])
    (st : State) (inps : List Env) :
    AgreeRuns b.wires.size (run (lowerBlock r b) order' st inps) (run b order st inps) := by
  have hlo := lowerOrder_topo hshape hord (fun n hn => hwf.old n (hord n hn)) hto
  rw [run_any_topo_order (lowerBlock r b) order' (lowerOrder r b order) hp hto' hlo]
  exact lower_run_preserves r Pre hr b hwf order hord st inps

end Pyrtl.LowerNet
