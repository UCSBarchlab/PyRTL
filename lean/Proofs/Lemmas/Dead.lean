import Model.Pass.Dead
import Proofs.Lemmas.Dco
import Proofs.Lemmas.KeptRun
/-!
# Dead-logic removal keeps the value of every wire it keeps

`applyDead` is the instance of `evalSeq_removed` in which every kept net stands for itself: that none of them reads a
removed destination is `DeadFacts.closed`, read off `deadOk` (`dead_eval`).  Then one cycle by `step_state_eq`
(`dead_step`) and every run by `AgreeOn.run_of_step` (`dead_run`).
-/
namespace Pyrtl.Dead

def RemovedDest (removed : List Net) (w : Nat) : Prop := ∃ r ∈ removed, r.dest = w

theorem removedDestB_iff (removed : List Net) (w : Nat) : removedDestB removed w = true ↔ RemovedDest removed w := by
  simp [removedDestB, RemovedDest]

structure DeadFacts (b : Block) (removed : List Net) : Prop where
  mem : ∀ r ∈ removed, r ∈ b.nets ∧ r.op.isComb = true ∧ b.kind r.dest ≠ .output
  closed : ∀ n ∈ b.nets, n ∉ removed → ∀ a ∈ n.args, ¬ RemovedDest removed a

theorem deadOk_facts {b : Block} {removed : List Net} (h : deadOk b removed = true) : DeadFacts b removed := by
  simp only [deadOk, keptNets, Bool.and_eq_true, List.all_eq_true, List.contains_eq_mem, Bool.not_eq_true',
    ← Bool.not_eq_true, decide_eq_true_eq, removedDestB_iff, List.mem_filter, and_assoc] at h
  exact ⟨h.1, fun n hn hnr => h.2 n ⟨hn, hnr⟩⟩

theorem mem_applyDead (b : Block) (removed : List Net) (n : Net) :
    n ∈ (applyDead b removed).nets ↔ (n ∈ b.nets ∧ n ∉ removed) := by
  simp [applyDead, keptNets]

theorem dead_eval {b : Block} {removed : List Net} (st : State) (e : Env) {order order' : List Net}
    (hok : deadOk b removed = true)
    (hord : ∀ n, n ∈ order ↔ (n ∈ b.nets ∧ n.op.isComb = true)) (hto : Topo order order [])
    (hsingle : ∀ n ∈ order, ∀ m ∈ order, n.dest = m.dest → n = m)
    (hord' : ∀ n, n ∈ order' ↔ (n ∈ (applyDead b removed).nets ∧ n.op.isComb = true)) (hto' : Topo order' order' []) :
    ∀ x, ¬ RemovedDest removed x → evalNets (applyDead b removed) st order' e x = evalNets b st order e x := by
  have hf := deadOk_facts hok
  refine evalSeq_removed (netFun b st) removed id e hto hto' hsingle
    (fun r hr => (hord r).mpr ⟨(hf.mem r hr).1, (hf.mem r hr).2.1⟩) (fun n => ?_)
    (fun n hn hnr => ⟨rfl, hf.closed n ((hord n).mp hn).1 hnr, rfl⟩)
  simp only [id, exists_eq_right_right]
  rw [hord', hord, mem_applyDead, and_right_comm]

structure Scheds (b : Block) (removed : List Net) (order order' : List Net) : Prop where
  ok : deadOk b removed = true
  ord : ∀ n, n ∈ order ↔ (n ∈ b.nets ∧ n.op.isComb = true)
  topo : Topo order order []
  single : ∀ n ∈ order, ∀ m ∈ order, n.dest = m.dest → n = m
  ord' : ∀ n, n ∈ order' ↔ (n ∈ (applyDead b removed).nets ∧ n.op.isComb = true)
  topo' : Topo order' order' []
  regArity : ∀ n ∈ b.nets, n.op = .reg → ∃ a, n.args = [a]

theorem dead_step {b : Block} {removed : List Net} {order order' : List Net} (H : Scheds b removed order order')
    (st : State) (inp : Env) :
    (∀ x, ¬ RemovedDest removed x → (step (applyDead b removed) order' st inp).1 x = (step b order st inp).1 x) ∧
    (step (applyDead b removed) order' st inp).2 = (step b order st inp).2 := by
  have hf := deadOk_facts H.ok
  have henv := dead_eval st (baseEnv b st inp) H.ok H.ord H.topo H.single H.ord' H.topo'
  have hkept : ∀ n, n.op.isComb = false → n ∉ removed := fun n hc hr => by
    rw [(hf.mem n hr).2.1] at hc
    cases hc
  refine ⟨henv, step_state_eq id ?_ H.regArity
    fun n hn hc a ha => henv a (hf.closed n hn (hkept n hc) a ha)⟩
  rw [Net.rename_id, List.map_id]
  exact stateNets_remove fun r hr => (hf.mem r hr).2.1

theorem dead_run {b : Block} {removed : List Net} {order order' : List Net} (H : Scheds b removed order order')
    (inps : List Env) (st : State) :
    Dco.AgreeOn (fun x => ¬ RemovedDest removed x) (run (applyDead b removed) order' st inps) (run b order st inps) :=
  Dco.AgreeOn.run_of_step (dead_step H) inps st

theorem deadSchedsOkB_sound {b : Block} {removed : List Net} (h : deadSchedsOkB b removed = true) :
    Scheds b removed (Dco.orderOf b) (Dco.orderOf (applyDead b removed)) ∧
      ∀ x, b.kind x = .output → ¬ RemovedDest removed x := by
  simp only [deadSchedsOkB, Bool.and_eq_true] at h
  obtain ⟨⟨⟨⟨h1, h2⟩, h3⟩, h4⟩, h5⟩ := h
  obtain ⟨ho, hto⟩ := Dco.orderOkB_sound h2
  obtain ⟨ho', hto'⟩ := Dco.orderOkB_sound h3
  refine ⟨⟨h1, ho, hto, single_of_all h4, ho', hto', regArity_of_all h5⟩, ?_⟩
  rintro x hx ⟨r, hr, hd⟩
  exact ((deadOk_facts h1).mem r hr).2.2 (hd ▸ hx)

end Pyrtl.Dead
