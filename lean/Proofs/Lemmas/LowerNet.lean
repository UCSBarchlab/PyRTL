import Model.Pass.LowerNet
import Proofs.Lemmas.Rewrite
import Proofs.Lemmas.KeptRun
import Proofs.Lemmas.SpecVal
/-!
# Whole-netlist refinement for the net-rewriting passes

If every gadget recomputes the value of the net it replaces (from *any* valuation, writing only its destination and
fresh wires), the lowered schedule of the lowered block yields, cycle after cycle and for every input history, the
values of the original block on all original wires and the same architectural state.  Every gadget is a body that
writes the temporaries `t, t+1, …` in order, followed by `dest <<= s`: that it is combinational and writes no other wire
of the block is read off this shape, so a rule has to show only the value left in `s` (`ruleSound_of_shape`, and
`wide_then_w` for the closing `dest <<= s`).
-/
namespace Pyrtl.LowerNet
open Pyrtl.Rewrite

structure Extends (b b' : Block) : Prop where
  wire : ∀ i, i < b.wires.size → b'.wire i = b.wire i
  mems : b'.mems = b.mems

def NetOld (b : Block) (n : Net) : Prop :=
  (∀ a ∈ n.args, a < b.wires.size) ∧ n.dest < b.wires.size

theorem dest_of_dests {n : Net} {x : Nat} (h : n.dests = [x]) : n.dest = x := congrArg (·.headD 0) h

theorem Extends.width {b b' : Block} (h : Extends b b') {i : Nat} (hi : i < b.wires.size) :
    b'.width i = b.width i := by simp only [Block.width, h.wire i hi]

theorem netFun_extends {b b' : Block} (h : Extends b b') (st : State) {n : Net} (hn : NetOld b n)
    (vals : List Nat) : netFun b' st n vals = netFun b st n vals := by
  have hargs : n.args.map b'.width = n.args.map b.width :=
    List.map_congr_left (fun a ha => h.width (hn.1 a ha))
  unfold netFun memRead Block.mem?
  rw [h.width hn.2, hargs, h.mems]

theorem baseEnv_extends {b b' : Block} (h : Extends b b') (st : State) (inp : Env) (w : Nat)
    (hw : w < b.wires.size) : baseEnv b' st inp w = baseEnv b st inp w := by
  simp only [baseEnv, Block.kind, h.wire w hw]

/-- `regOld`, `writeOld`: the register and write nets need not be scheduled, yet the next state reads their arguments
    (`nextRegs`: `headD 0` of a register net's arguments) -/
structure StepHyp (b b' : Block) (order order' : List Net) (ex : Net → List Net) : Prop where
  ext : Extends b b'
  ord : order' = order.flatMap ex
  old : ∀ n ∈ order, NetOld b n
  regs : ∀ r, regNetOf b' r = regNetOf b r
  regOld : ∀ r n, regNetOf b r = some n → r < b.wires.size ∧ ∀ a ∈ n.args, a < b.wires.size
  writes : writeNets b' = writeNets b
  writeOld : ∀ n ∈ writeNets b, ∀ a ∈ n.args, a < b.wires.size
  gadget : ∀ st : State, ∀ n ∈ order, ∀ e' : Env,
    (∀ w, w < b.wires.size → w ≠ n.dest → evalSeq (netFun b' st) (ex n) e' w = e' w) ∧
    evalSeq (netFun b' st) (ex n) e' n.dest = netFun b st n (n.args.map e')

theorem step_preserves {b b' : Block} {order order' : List Net} {ex : Net → List Net}
    (H : StepHyp b b' order order' ex) (st : State) (inp : Env) :
    (∀ w, w < b.wires.size → (step b' order' st inp).1 w = (step b order st inp).1 w) ∧
    (step b' order' st inp).2 = (step b order st inp).2 := by
  have henv : ∀ w, w < b.wires.size →
      evalNets b' st order' (baseEnv b' st inp) w = evalNets b st order (baseEnv b st inp) w := by
    rw [H.ord]
    exact flatMap_preserves ex (fun n hn => (H.old n hn).1) (H.gadget st) _ _ (baseEnv_extends H.ext st inp)
  refine ⟨henv, nextState_eq b b' id st (fun r => by simp [H.regs r, Net.rename_id])
    (by simp [H.writes, Net.rename_id]) (fun r n hreg => H.ext.width (H.regOld r n hreg).1) (fun r n hreg => ?_)
    (fun n hn a ha => henv a (H.writeOld n hn a ha))⟩
  obtain ⟨hr, ha⟩ := H.regOld r n hreg
  rw [List.map_id]
  cases hargs : n.args with
  | nil => exact henv 0 (Nat.zero_lt_of_lt hr)   -- no argument: `headD 0` reads wire 0 in both
  | cons a rest => exact henv a (ha a (by simp [hargs]))

def AgreeRuns (size : Nat) : List Env → List Env → Prop
  | [], [] => True
  | e' :: r', e :: r => (∀ w, w < size → e' w = e w) ∧ AgreeRuns size r' r
  | _, _ => False

theorem agreeRuns_iff {size : Nat} : ∀ {l1 l2}, AgreeRuns size l1 l2 ↔ Dco.AgreeOn (· < size) l1 l2
  | [], [] => Iff.rfl
  | _ :: _, _ :: _ => and_congr Iff.rfl agreeRuns_iff
  | [], _ :: _ => Iff.rfl
  | _ :: _, [] => Iff.rfl

structure RuleSound (r : Rule) (Pre : Block → Net → Prop) : Prop where
  comb : ∀ b n g, r b n = some g → n.op.isComb = true
  ops : ∀ b n g t, r b n = some g → ∀ m ∈ g.nets t, m.op.isComb = true
  sound : ∀ (b b' : Block) (n : Net) (g : Gadget) (t : Nat) (st : State) (e' : Env),
    r b n = some g → Extends b b' → NetOld b n → Pre b n → b.wires.size ≤ t →
    (∀ j, j < g.tmps.length → b'.width (t + j) = g.tmps.getD j 0) →
    (∀ w, w < b.wires.size → w ≠ n.dest → evalSeq (netFun b' st) (g.nets t) e' w = e' w) ∧
    evalSeq (netFun b' st) (g.nets t) e' n.dest = netFun b st n (n.args.map e')

structure WF (Pre : Block → Net → Prop) (b : Block) : Prop where
  old : ∀ n ∈ b.nets, NetOld b n
  drv : ∀ n ∈ b.nets, n.op.isComb = true → driverOf b n.dest = some n
  pre : ∀ n ∈ b.nets, Pre b n

theorem wfB_sound {pre : Block → Net → Bool} {Pre : Block → Net → Prop} {b : Block}
    (hpre : ∀ n, pre b n = true → Pre b n) (h : wfB pre b = true) : WF Pre b := by
  simp only [wfB, netOldB, drvB, List.all_eq_true, Bool.and_eq_true, Bool.or_eq_true, Bool.not_eq_true',
    decide_eq_true_eq, beq_iff_eq] at h
  exact ⟨fun n hn => (h n hn).1.1, fun n hn hc => (h n hn).1.2.resolve_left (by simp [hc]),
    fun n hn => hpre n (h n hn).2⟩

theorem le_foldr_max {l : List Nat} {x : Nat} (h : x ∈ l) : x ≤ l.foldr max 0 := by
  rw [List.foldr_eq_foldl]
  exact (List.max?_eq_some_iff.mp List.max?_cons').2 x (List.mem_cons_of_mem _ h)

theorem tmps_lt_stride {r : Rule} {b : Block} {n : Net} {g : Gadget} (hn : n ∈ b.nets) (hg : r b n = some g) :
    g.tmps.length < stride r b := by
  have := le_foldr_max (List.mem_map_of_mem (f := tmpsLen r b) hn)
  rw [tmpsLen, hg] at this
  exact Nat.lt_succ_of_le this

theorem lower_extends (r : Rule) (b : Block) : Extends b (lowerBlock r b) :=
  ⟨fun i hi => by
    rw [Block.wire, Block.wire, lowerBlock, Array.getD_eq_getD_getElem?, Array.getD_eq_getD_getElem?,
      Array.getElem?_append_left hi],
    -- a bare `rfl` makes the unifier compare the two blocks field by field before it unfolds `lowerBlock`
    by rw [lowerBlock]⟩

theorem lower_tmp_width {r : Rule} {b : Block} {d j : Nat} (hd : d < b.wires.size) (hj : j < stride r b) :
    (lowerBlock r b).width (base r b d + j) = tmpWidth r b d j := by
  have hk : stride r b * d + j < stride r b * b.wires.size := by
    rw [Nat.add_comm]
    exact add_mul_lt hj hd
  -- wire `base r b d + j` is entry `stride r b * d + j` of `tmpWires`
  rw [Block.width, Block.wire, lowerBlock, base, Nat.add_assoc, Array.getD_eq_getD_getElem?,
    Array.getElem?_append_right (Nat.le_add_right _ _), Nat.add_sub_cancel_left, List.getElem?_toArray, tmpWires,
    List.getElem?_map, List.getElem?_range hk, Option.map_some, Option.getD_some, Nat.mul_add_div (Nat.zero_lt_of_lt hj),
    Nat.div_eq_of_lt hj, Nat.mul_add_mod, Nat.mod_eq_of_lt hj, Nat.add_zero]

theorem lower_nets_forall {r : Rule} {b : Block} {P : Net → Prop}
    (hkept : ∀ n ∈ b.nets, r b n = none → P n)
    (hgad : ∀ n g, r b n = some g → ∀ m ∈ g.nets (base r b n.dest), P m) :
    ∀ m ∈ (lowerBlock r b).nets, P m := by
  intro m hm
  obtain ⟨n, hn, hmn⟩ := List.mem_flatMap.mp hm
  simp only [expand] at hmn
  cases hr : r b n with
  | none =>
    rw [hr] at hmn
    exact List.mem_singleton.mp hmn ▸ hkept n hn hr
  | some g =>
    rw [hr] at hmn
    exact hgad n g hr m hmn

theorem stateNets_expand {r : Rule} {Pre : Block → Net → Prop} (hr : RuleSound r Pre) (b : Block) (ns : List Net) :
    stateNets (ns.flatMap (expand r b)) = stateNets ns := by
  have hn : ∀ n, stateNets (expand r b n) = stateNets [n] := fun n => by
    unfold expand
    cases hg : r b n with
    | none => rfl
    | some g =>
      rw [stateNets, stateNets, List.filter_eq_nil_iff.mpr fun m hm => by simp [hr.ops b n g _ hg m hm],
        List.filter_eq_nil_iff.mpr fun m hm => by simp [List.mem_singleton.mp hm, hr.comb b n g hg]]
  unfold stateNets at hn ⊢
  rw [List.filter_flatMap, funext hn, ← List.filter_flatMap, List.flatMap_singleton']

theorem lower_stepHyp {r : Rule} {Pre : Block → Net → Prop} (hr : RuleSound r Pre) {b : Block} (hwf : WF Pre b)
    {order : List Net} (hord : ∀ n ∈ order, n ∈ b.nets) :
    StepHyp b (lowerBlock r b) order (lowerOrder r b order) (expand r b) where
  ext := lower_extends r b
  ord := rfl
  old := fun n hn => hwf.old n (hord n hn)
  regs := fun r' => by
    rw [← regNetOf_stateNets, ← regNetOf_stateNets b]
    simp only [lowerBlock, stateNets_expand hr, regNetOf]
  regOld := fun r' n h => by
    obtain ⟨hmem, _, hd⟩ := regNetOf_some h
    obtain ⟨ha, hdo⟩ := hwf.old n hmem
    exact ⟨dest_of_dests hd ▸ hdo, ha⟩
  writes := by
    rw [← writeNets_stateNets, ← writeNets_stateNets b]
    simp only [lowerBlock, stateNets_expand hr, writeNets]
  writeOld := fun n hn => (hwf.old n (List.mem_filter.mp hn).1).1
  gadget := fun st n hn e' => by
    have hnb := hord n hn
    simp only [expand]
    cases hg : r b n with
    | none =>
      exact ⟨fun w _ hwd => upd_ne hwd,
        upd_eq.trans (netFun_extends (lower_extends r b) st (hwf.old n hnb) _)⟩
    | some g =>
      have hcomb := hr.comb b n g hg
      have hold := hwf.old n hnb
      apply hr.sound b (lowerBlock r b) n g (base r b n.dest) st e' hg (lower_extends r b) hold
        (hwf.pre n hnb) (by simp [base])
      intro j hj
      rw [lower_tmp_width hold.2 (Nat.lt_trans hj (tmps_lt_stride hnb hg))]
      simp only [tmpWidth, hwf.drv n hnb hcomb, hg]

/-- **the pass preserves every run**: the lowered block under the lowered schedule shows on every original wire (in
    particular on every Output), in every cycle, the value the original block shows. -/
theorem lower_run_preserves (r : Rule) (Pre : Block → Net → Prop) (hr : RuleSound r Pre) (b : Block)
    (hwf : WF Pre b) (order : List Net) (hord : ∀ n ∈ order, n ∈ b.nets) (st : State) (inps : List Env) :
    AgreeRuns b.wires.size (run (lowerBlock r b) (lowerOrder r b order) st inps) (run b order st inps) :=
  agreeRuns_iff.mpr <| Dco.AgreeOn.run_of_step (step_preserves (lower_stepHyp hr hwf hord)) inps st

theorem bodyOk_cons {nargs : List Nat} {t : Nat} {m : Net} {ms : List Net} {i : Nat} :
    bodyOk nargs t (m :: ms) i = true ↔
      m.dests = [t + i] ∧ m.op.isComb = true ∧ (∀ a ∈ m.args, a ∈ nargs ∨ (t ≤ a ∧ a < t + i)) ∧
        bodyOk nargs t ms (i + 1) = true := by
  simp only [bodyOk, Bool.and_eq_true, beq_iff_eq, List.all_eq_true, Bool.or_eq_true, List.contains_eq_mem,
    decide_eq_true_eq, and_assoc]

theorem bodyOk_append (nargs : List Nat) (t : Nat) (l1 l2 : List Net) (i : Nat) :
    bodyOk nargs t (l1 ++ l2) i = (bodyOk nargs t l1 i && bodyOk nargs t l2 (i + l1.length)) := by
  induction l1 generalizing i with
  | nil => simp [bodyOk]
  | cons m ms ih =>
    simp only [List.cons_append, bodyOk, ih (i + 1), List.length_cons, Bool.and_assoc]
    rw [Nat.succ_add_eq_add_succ]

theorem bodyOk_spec {nargs : List Nat} {t : Nat} {body : List Net} {i : Nat} (hok : bodyOk nargs t body i = true) :
    (∀ m ∈ body, m.op.isComb = true) ∧ ∀ x, x ∈ body.map Net.dest ↔ (t + i ≤ x ∧ x < t + i + body.length) := by
  induction body generalizing i with
  | nil => exact ⟨fun _ h => (nomatch h), fun x => by simp⟩
  | cons m ms ih =>
    obtain ⟨hd, hc, _, hrest⟩ := bodyOk_cons.mp hok
    obtain ⟨ihc, ihd⟩ := ih hrest
    refine ⟨List.forall_mem_cons.mpr ⟨hc, ihc⟩, fun x => ?_⟩
    simp only [List.map_cons, List.mem_cons, List.length_cons, ihd x, dest_of_dests hd]
    omega

theorem gadgetShape_iff {n : Net} {t k : Nat} {nets : List Net} :
    gadgetShape n t k nets = true ↔ ∃ body last, nets = body ++ [last] ∧ last.op = .w ∧ last.dests = [n.dest] ∧
      (∀ a ∈ last.args, a ∈ n.args ∨ (t ≤ a ∧ a < t + k)) ∧ body.length = k ∧ bodyOk n.args t body 0 = true := by
  have key : ∀ body last, gadgetShape n t k (body ++ [last]) = true ↔ last.op = .w ∧ last.dests = [n.dest] ∧
      (∀ a ∈ last.args, a ∈ n.args ∨ (t ≤ a ∧ a < t + k)) ∧ body.length = k ∧ bodyOk n.args t body 0 = true := by
    intro body last
    simp only [gadgetShape, List.reverse_append, List.reverse_cons, List.reverse_nil, List.nil_append,
      List.singleton_append, List.reverse_reverse, List.length_reverse, Bool.and_eq_true, beq_iff_eq,
      List.all_eq_true, Bool.or_eq_true, List.contains_eq_mem, decide_eq_true_eq, and_assoc]
  constructor
  · intro h
    rcases List.eq_nil_or_concat nets with rfl | ⟨body, last, rfl⟩
    · simp [gadgetShape] at h
    · exact ⟨body, last, by simp, (key body last).mp (by simpa using h)⟩
  · rintro ⟨body, last, rfl, h⟩
    exact (key body last).mpr h

theorem gadgetShape_wNet {n : Net} {t : Nat} (k : Nat) (body : List Net) (hlen : body.length = k + 1)
    (hb : bodyOk n.args t body 0 = true) : gadgetShape n t (k + 1) (body ++ [wNet (t + k) n.dest]) = true :=
  gadgetShape_iff.mpr ⟨body, _, rfl, rfl, rfl, fun a ha => .inr (by
    have := List.mem_singleton.mp ha
    omega), hlen, hb⟩

theorem gadgetShape_spec {n : Net} {t k : Nat} {nets : List Net} (h : gadgetShape n t k nets = true) :
    (∀ m ∈ nets, m.op.isComb = true) ∧
    ∀ x, x ∈ nets.map Net.dest ↔ (x = n.dest ∨ (t ≤ x ∧ x < t + k)) := by
  obtain ⟨body, last, rfl, hop, hld, _, hlen, hb⟩ := gadgetShape_iff.mp h
  obtain ⟨hc, hd⟩ := bodyOk_spec hb
  refine ⟨List.forall_mem_append.mpr ⟨hc, List.forall_mem_singleton.mpr (hop ▸ rfl)⟩, fun x => ?_⟩
  simp only [List.map_append, List.map_cons, List.map_nil, List.mem_append, List.mem_singleton, hd x,
    dest_of_dests hld]
  rw [Nat.add_zero, hlen, or_comm]

def RuleShape (r : Rule) : Prop :=
  ∀ b n g t, r b n = some g → gadgetShape n t g.tmps.length (g.nets t) = true

theorem map_range'_of_getD (f : Nat → Nat) (t : Nat) (l : List Nat)
    (h : ∀ j, j < l.length → f (t + j) = l.getD j 0) : (List.range' t l.length).map f = l :=
  List.ext_getElem (by simp) fun j _ hj => by
    rw [List.getElem_map, List.getElem_range', Nat.one_mul, h j hj, List.getD_eq_getElem?_getD,
      List.getElem?_eq_getElem hj]
    rfl

theorem ruleSound_of_shape {r : Rule} {Pre : Block → Net → Prop} (hshape : RuleShape r)
    (hcomb : ∀ b n g, r b n = some g → n.op.isComb = true)
    (hval : ∀ (b b' : Block) (n : Net) (g : Gadget) (t : Nat) (st : State) (e' : Env),
      r b n = some g → Extends b b' → NetOld b n → Pre b n → b.wires.size ≤ t →
      (List.range' t g.tmps.length).map b'.width = g.tmps →
      evalSeq (netFun b' st) (g.nets t) e' n.dest = netFun b st n (n.args.map e')) :
    RuleSound r Pre where
  comb := hcomb
  ops := fun b n g t hg => (gadgetShape_spec (hshape b n g t hg)).1
  sound := fun b b' n g t st e' hg hext hold hpre ht hw =>
    ⟨fun w hwo hwd => evalSeq_off _ _ (fun m hm h => by
        have := ((gadgetShape_spec (hshape b n g t hg)).2 m.dest).mp (List.mem_map_of_mem hm)
        omega),
      hval b b' n g t st e' hg hext hold hpre ht (map_range'_of_getD _ t _ hw)⟩

/-- the body may leave the replaced primitive in `s` at any width `W` not below the destination's: truncation commutes
    with every primitive -/
theorem wide_then_w {b b' : Block} {n : Net} {st : State} {e' : Env} (body : List Net) {s : Nat} (W : Nat)
    (hext : Extends b b') (hold : NetOld b n) (hop : ∀ m, n.op ≠ .mread m) (hW : b.width n.dest ≤ W)
    (hval : evalSeq (netFun b' st) body e' s = Spec.comb n.op ((n.args.map b.width).zip (n.args.map e')) W) :
    evalSeq (netFun b' st) (body ++ [wNet s n.dest]) e' n.dest = netFun b st n (n.args.map e') := by
  have hd : (wNet s n.dest).dest = n.dest := rfl
  rw [evalSeq_append, evalSeq, evalSeq, hd, upd_eq, netFun_comb b st n hop, ← Spec.comb_trunc _ _ hW, ← hval,
    ← hext.width hold.2]
  rfl

end Pyrtl.LowerNet
