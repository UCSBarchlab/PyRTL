import Model.Pass.Synth
/-! The gate-level generators against arithmetic on `toNat`, for every length.  The one fact about adding is
`addHelper_spec` (sum bits + `2^n` · carry out = `a + b` + carry in); `+` and `-` rest on it.  It and the
facts about `==`, `<` and the select are inductions on two lists of equal length (`rec_eq_length`). -/
namespace Pyrtl.Synth

theorem oneBitAdd_spec (a b c : Bool) :
    b2n (oneBitAdd a b c).1 + 2 * b2n (oneBitAdd a b c).2 = b2n a + b2n b + b2n c := by
  cases a <;> cases b <;> cases c <;> rfl

theorem oneBitAdd_carry (a b c : Bool) : (oneBitAdd a b c).2 = (a && b || (xor a b && c)) := by
  cases a <;> cases b <;> cases c <;> rfl

theorem b2n_le_one (b : Bool) : b2n b ≤ 1 := by
  cases b <;> decide

theorem b2n_and (a b : Bool) : b2n (a && b) = b2n a * b2n b := by
  cases a <;> cases b <;> rfl

theorem toNat_lt (l : List Bool) : toNat l < 2 ^ l.length := by
  induction l with
  | nil => simp [toNat]
  | cons b bs ih =>
    simp only [toNat, List.length_cons, Nat.pow_succ]
    have := b2n_le_one b
    omega

theorem toNat_mul_lt (a b : List Bool) : toNat a * toNat b < 2 ^ (a.length + b.length) := by
  rw [Nat.pow_add]
  exact Nat.mul_lt_mul'' (toNat_lt a) (toNat_lt b)

theorem toNat_take_drop (a : List Bool) (k : Nat) : toNat (a.take k) + 2 ^ k * toNat (a.drop k) = toNat a := by
  induction a generalizing k with
  | nil => simp [toNat]
  | cons b bs ih =>
    cases k with
    | zero => simp [toNat]
    | succ k =>
      rw [List.take_succ_cons, List.drop_succ_cons, toNat, toNat, ← ih k, Nat.pow_succ, Nat.mul_right_comm]
      omega

theorem toNat_append (l m : List Bool) : toNat (l ++ m) = toNat l + 2 ^ l.length * toNat m := by
  rw [← toNat_take_drop (l ++ m) l.length, List.take_left, List.drop_left]

theorem toNat_lt_of_length_le {l : List Bool} {W : Nat} (h : l.length ≤ W) : toNat l < 2 ^ W :=
  Nat.lt_of_lt_of_le (toNat_lt l) (Nat.pow_le_pow_right (by decide) h)

theorem toNat_take (l : List Bool) (n : Nat) : toNat (l.take n) = toNat l % 2 ^ n := by
  rw [← toNat_take_drop l n, Nat.add_mul_mod_self_left,
    Nat.mod_eq_of_lt (toNat_lt_of_length_le (List.length_take_le n l))]

theorem rec_eq_length {α β} {motive : (a : List α) → (b : List β) → a.length = b.length → Prop}
    (nil : motive [] [] rfl)
    (cons : ∀ x xs y ys (hl : xs.length = ys.length), motive xs ys hl →
      motive (x :: xs) (y :: ys) (congrArg (· + 1) hl)) :
    ∀ a b h, motive a b h
  | [], [], _ => nil
  | x :: xs, y :: ys, h =>
    cons x xs y ys (Nat.succ.inj h) (rec_eq_length nil cons xs ys (Nat.succ.inj h))

theorem addHelper_length (a b : List Bool) (c : Bool) (h : a.length = b.length) :
    (addHelper a b c).1.length = a.length := by
  induction a, b, h using rec_eq_length generalizing c with
  | nil => rfl
  | cons x xs y ys hl ih => simp only [addHelper, List.length_cons, ih]

theorem addHelper_spec (a b : List Bool) (c : Bool) (h : a.length = b.length) :
    toNat (addHelper a b c).1 + 2 ^ a.length * b2n (addHelper a b c).2
      = toNat a + toNat b + b2n c := by
  induction a, b, h using rec_eq_length generalizing c with
  | nil => simp [addHelper, toNat]
  | cons x xs y ys hl ih =>
    have h1 := oneBitAdd_spec x y c
    have h2 := ih (oneBitAdd x y c).2
    simp only [addHelper, toNat, List.length_cons, Nat.pow_succ]
    rw [Nat.mul_comm (2 ^ xs.length) 2, Nat.mul_assoc]
    omega

theorem toNat_addHelper (a b : List Bool) (c : Bool) (h : a.length = b.length) :
    toNat ((addHelper a b c).1 ++ [(addHelper a b c).2]) = toNat a + toNat b + b2n c := by
  rw [toNat_append, addHelper_length a b c h, ← addHelper_spec a b c h]
  simp [toNat]

theorem basicAdd_spec (a b : List Bool) (h : a.length = b.length) :
    toNat (basicAdd a b) = toNat a + toNat b :=
  toNat_addHelper a b false h

theorem basicAdd_length (a b : List Bool) (h : a.length = b.length) :
    (basicAdd a b).length = a.length + 1 := by
  simp [basicAdd, addHelper_length a b false h]

theorem toNat_map_not (b : List Bool) : toNat (b.map not) + toNat b + 1 = 2 ^ b.length := by
  induction b with
  | nil => rfl
  | cons x xs ih =>
    have : b2n (!x) + b2n x = 1 := by cases x <;> rfl
    simp only [List.map_cons, toNat, List.length_cons, Nat.pow_succ]
    omega

theorem basicSub_spec (a b : List Bool) (h : a.length = b.length) :
    (toNat (basicSub a b) : Int) = ((toNat a : Int) - (toNat b : Int)) % ((2 ^ (a.length + 1) : Nat) : Int) := by
  have hb : a.length = (b.map not).length := by rw [List.length_map, h]
  have hs := addHelper_spec a (b.map not) true hb
  have hsl := toNat_lt (addHelper a (b.map not) true).1
  have hnot := toNat_map_not b
  have hpos : (0 : Int) < ((2 ^ (a.length + 1) : Nat) : Int) := Int.natCast_pos.2 (Nat.two_pow_pos _)
  rw [addHelper_length a _ true hb] at hsl
  rw [← h] at hnot
  rw [basicSub, toNat_append, addHelper_length a _ true hb]
  rw [Nat.pow_succ] at hpos ⊢
  generalize 2 ^ a.length = P at *
  -- sum + P·carry = a + (P - 1 - b) + 1: with a carry the sum bits are `a - b`, without `a - b + P`
  generalize (addHelper a (b.map not) true).2 = c at *
  cases c <;> simp only [toNat, b2n, Bool.not_false, Bool.not_true, Bool.false_eq_true, if_true, if_false] at hs ⊢
  · exact ((Int.ediv_emod_unique (q := -1) hpos).2 (by omega)).2.symm
  · exact ((Int.ediv_emod_unique (q := 0) hpos).2 (by omega)).2.symm

theorem xor_any_false_iff (a b : List Bool) (h : a.length = b.length) :
    (List.zipWith xor a b).any id = false ↔ a = b := by
  induction a, b, h using rec_eq_length with
  | nil => simp
  | cons x xs y ys hl ih =>
    simp only [List.zipWith_cons_cons, List.any_cons, id, Bool.or_eq_false_iff, ih, List.cons.injEq]
    cases x <;> cases y <;> simp

theorem toNat_inj (a b : List Bool) (h : a.length = b.length) (e : toNat a = toNat b) : a = b := by
  induction a, b, h using rec_eq_length with
  | nil => rfl
  | cons x xs y ys hl ih =>
    simp only [toNat] at e
    have hx : x = y := by cases x <;> cases y <;> simp [b2n] at e ⊢ <;> omega
    subst hx
    rw [ih (by omega)]

theorem basicEq_spec (a b : List Bool) (h : a.length = b.length) :
    toNat (basicEq a b) = if toNat a = toNat b then 1 else 0 := by
  have hne : (toNat a = toNat b) = (a = b) := propext ⟨toNat_inj a b h, congrArg toNat⟩
  simp only [basicEq, toNat, hne, ← xor_any_false_iff a b h]
  cases (List.zipWith xor a b).any id <;> rfl

/-- the verdict `acc` on the lower bits enters like a borrow -/
theorem ltBit_spec (x y acc : Bool) :
    b2n ((y && !x) || (acc && !(xor x y))) = if b2n x < b2n y + b2n acc then 1 else 0 := by
  cases x <;> cases y <;> cases acc <;> rfl

theorem ltAcc_spec (a b : List Bool) (acc : Bool) (h : a.length = b.length) :
    b2n (ltAcc a b acc) = if toNat a < toNat b + b2n acc then 1 else 0 := by
  induction a, b, h using rec_eq_length generalizing acc with
  | nil => cases acc <;> rfl
  | cons x xs y ys hl ih =>
    have hbit := ltBit_spec x y acc
    have := b2n_le_one x
    have := b2n_le_one y
    have := b2n_le_one acc
    rw [ltAcc, ih, toNat, toNat]
    refine ite_congr (propext ?_) (fun _ => rfl) (fun _ => rfl)
    split at hbit <;> omega

theorem basicLt_spec (a b : List Bool) (h : a.length = b.length) :
    toNat (basicLt a b) = if toNat a < toNat b then 1 else 0 := by
  rw [basicLt, toNat, toNat, ltAcc_spec a b false h]
  rfl

theorem basicGt_spec (a b : List Bool) (h : a.length = b.length) :
    toNat (basicGt a b) = if toNat a > toNat b then 1 else 0 :=
  basicLt_spec b a h.symm

theorem basicSelect_spec (s : Bool) (a b : List Bool) (h : a.length = b.length) :
    basicSelect s a b = if s then b else a := by
  induction a, b, h using rec_eq_length with
  | nil => cases s <;> rfl
  | cons x xs y ys hl ih =>
    simp only [basicSelect, List.zipWith_cons_cons] at ih ⊢
    rw [ih]
    cases s <;> simp

end Pyrtl.Synth
