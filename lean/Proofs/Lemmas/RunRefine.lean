import Proofs.Lemmas.PySimOps
import Proofs.Lemmas.SpecVal
import Proofs.Lemmas.KeptRun
/-!
# Run-level refinement: evaluating a schedule with a net function that agrees with the documented one

Agreement on in-range arguments suffices: the documented valuation keeps every wire in range whatever the schedule, since
every result of `netFun` fits its destination (`evalSeq_lt`), and that is what the next net asks of its arguments; along a
schedule the two valuations then agree (`evalSeq_agree`).  One cycle and whole runs are in
`FastRun.lean`.  The vocabulary of C01's run theorems (`C01.Good`, `WF`, `Inv`, `InputsOk`, `RunsAgree`) is defined here,
below, because `FastRun` states the general theorems with it.

`Sched` is not `Topo`: an argument that is not computed yet must be of a source kind (Input, Const, Register), which is
where the simulator's store and the base environment are known to agree (`base_agree`), where `Topo` only asks that no
net drive it; and `Sched` lets a destination be written twice, which `Topo` forbids.  `sched_of_topo` goes from the one to
the other.
-/
namespace Pyrtl.RunRefine

def Src (b : Block) (w : Nat) : Prop :=
  match b.kind w with
  | .input | .const _ | .reg _ => True
  | _ => False

def Sched (b : Block) : List Net → List Nat → Prop
  | [], _ => True
  | n :: ns, done => (∀ a ∈ n.args, a ∈ done ∨ Src b a) ∧ Sched b ns (n.dest :: done)

theorem sched_of_topo (b : Block) (all : List Net)
    (hsrc : ∀ n ∈ all, ∀ a ∈ n.args, (∀ m ∈ all, m.dest ≠ a) → Src b a) :
    ∀ (ns : List Net) (done : List Nat), (∀ n ∈ ns, n ∈ all) → Topo all ns done → Sched b ns done := by
  intro ns
  induction ns with
  | nil => intro _ _ _; trivial
  | cons n ns ih =>
    intro done hsub ⟨ha, _, hrest⟩
    obtain ⟨hn, hsub⟩ := List.forall_mem_cons.mp hsub
    exact ⟨fun a haa => (ha a haa).imp_right (hsrc n hn a haa), ih _ hsub hrest⟩

theorem evalSeq_agree (b : Block) (nf : Net → List Nat → Nat) (st : State) {ns : List Net} {done : List Nat}
    {ep es : Env}
    (hexec : ∀ n ∈ ns, ∀ vals : List Nat, vals.length = n.args.length →
      (∀ p ∈ (n.args.map b.width).zip vals, p.2 < 2 ^ p.1) → nf n vals = Pyrtl.netFun b st n vals)
    (hs : Sched b ns done) (hes : ∀ w, es w < 2 ^ b.width w) (h : ∀ w, w ∈ done ∨ Src b w → ep w = es w) :
    ∀ w, w ∈ done ∨ Src b w ∨ w ∈ ns.map Net.dest → evalSeq nf ns ep w = evalSeq (Pyrtl.netFun b st) ns es w := by
  induction ns generalizing done ep es with
  | nil =>
    intro w hw
    exact h w (by simpa using hw)
  | cons n ns ih =>
    intro w hw
    obtain ⟨hargs, hrest⟩ := hs
    obtain ⟨hexn, hexec⟩ := List.forall_mem_cons.mp hexec
    have hfun : nf n (n.args.map ep) = Pyrtl.netFun b st n (n.args.map es) := by
      rw [List.map_congr_left fun a ha => h a (hargs a ha)]
      refine hexn _ (by simp) ?_
      rw [List.zip_map']
      exact List.forall_mem_map.mpr fun a _ => hes a
    refine ih (es := Pyrtl.upd es n.dest _) hexec hrest (fun x => evalSeq_lt b st [n] (hes x)) (fun x hx => ?_) w ?_
    · unfold Pyrtl.upd
      split
      · exact hfun
      · exact h x (hx.imp_left fun h => (List.mem_cons.mp h).resolve_left ‹_›)
    · rcases hw with h | h | h
      · exact .inl (List.mem_cons_of_mem _ h)
      · exact .inr (.inl h)
      · exact (List.mem_cons.mp h).elim (fun h => .inl (h ▸ List.mem_cons_self)) fun h => .inr (.inr h)

theorem memUpdate_eq_applyWrites (v : Env) (ws : List Net) (mm : Nat → Nat → Nat) :
    PySim.memUpdate v ws mm = applyWrites v ws mm := by
  induction ws generalizing mm with
  | nil => rfl
  | cons n ns ih =>
    rw [PySim.memUpdate, applyWrites]
    simp only [ih]
    rfl

theorem writes_congr {ep es : Env} {ws : List Net} {mm : Nat → Nat → Nat}
    (h : ∀ n ∈ ws, ∀ a ∈ n.args, ep a = es a) :
    PySim.memUpdate ep ws mm = applyWrites es ws mm := by
  rw [memUpdate_eq_applyWrites]
  simpa [Net.rename_id] using applyWrites_rename es ep id ws mm h

theorem pysim_netFun_congr (b : Block) (s1 s2 : State) (h : s1.mems = s2.mems) (n : Net) (vals : List Nat) :
    PySim.netFun b s1 n vals = PySim.netFun b s2 n vals := by
  unfold PySim.netFun memRead
  rw [h]

end Pyrtl.RunRefine

namespace Pyrtl.C01
open Pyrtl.PySim
open RunRefine

/-- wires that carry a meaningful value in a cycle -/
def Good (b : Block) (order : List Net) (w : Nat) : Prop := Src b w ∨ w ∈ order.map Net.dest

/-- what `sanity_check` guarantees about a block and its iteration order (C10) -/
structure WF (b : Block) (order : List Net) : Prop where
  sched : Sched b order []
  dests : ∀ n ∈ order, ¬ Src b n.dest
  consts : ∀ c v, b.kind c = .const v → v < 2 ^ b.width c
  regArg : ∀ n ∈ b.nets, n.op = .reg → Good b order (n.args.headD 0)
  wrArgs : ∀ n ∈ writeNets b, ∀ a ∈ n.args, Good b order a

/-- the simulator object and the specification state describe the same architectural state -/
structure Inv (b : Block) (s : Sim) (st : State) : Prop where
  regs : ∀ r, s.regvalue r = st.regs r
  regs_lt : ∀ r, isReg b r = true → st.regs r < 2 ^ b.width r
  mems : s.mem = st.mems
  consts : ∀ c v, b.kind c = .const v → s.value c = v

/-- what `Simulation.step` checks of the inputs of a cycle before using them (C15) -/
def InputsOk (b : Block) (inp : Env) : Prop := ∀ i, isInput b i = true → inp i < 2 ^ b.width i

theorem baseEnv_lt {b : Block} {st : State} {inp : Env} (hc : ∀ c v, b.kind c = .const v → v < 2 ^ b.width c)
    (hst : ∀ r, isReg b r = true → st.regs r < 2 ^ b.width r) (hin : InputsOk b inp) (w : Nat) :
    baseEnv b st inp w < 2 ^ b.width w := by
  unfold baseEnv
  split <;> rename_i hk
  · exact hin w (by simp only [isInput, hk])
  · exact hc w _ hk
  · exact hst w (by simp only [isReg, hk])
  · -- a wire that is no source starts the cycle at 0
    exact Nat.two_pow_pos _

/-- the left side is the valuation `FastSim.stepWith` starts a cycle from -/
theorem base_agree {b : Block} {s : Sim} {st : State} (hinv : Inv b s st) (inp : Env) {w : Nat} (hsrc : Src b w) :
    (if isReg b w then s.regvalue w else (if isInput b w then inp w else s.value w)) = baseEnv b st inp w := by
  unfold Src at hsrc
  unfold baseEnv
  split at hsrc <;> rename_i hk <;> simp only [isReg, isInput, hk, Bool.false_eq_true, if_false, if_true]
  · exact hinv.consts w _ hk
  · exact hinv.regs w
  · exact hsrc.elim

theorem spec_step_lt {b : Block} (order : List Net) (hc : ∀ c v, b.kind c = .const v → v < 2 ^ b.width c) {st : State}
    (hst : ∀ r, isReg b r = true → st.regs r < 2 ^ b.width r) {inp : Env} (hin : InputsOk b inp) (w : Nat) :
    (Pyrtl.step b order st inp).1 w < 2 ^ b.width w :=
  evalSeq_lt b st order (baseEnv_lt hc hst hin w)

def RunsAgree (b : Block) (order : List Net) : List Env → List Env → Prop
  | [], [] => True
  | ep :: ps, es :: ss => (∀ w, Good b order w → ep w = es w ∧ es w < 2 ^ b.width w) ∧ RunsAgree b order ps ss
  | _, _ => False

end Pyrtl.C01
