import Model.Core.Fast
/-! Refinement: the hash-map evaluator computes the same valuation as the closure evaluator. -/
namespace Pyrtl.Fast

theorem look_insert (m : FEnv) (base : Env) (k v : Nat) :
    look (m.insert k v) base = upd (look m base) k v := by
  funext x
  simp only [look, upd, Std.HashMap.getD_insert, beq_iff_eq, eq_comm (a := k)]

theorem evalSeq_look (f : Net → List Nat → Nat) (base : Env) (ns : List Net) (m : FEnv) :
    look (evalSeq f base ns m) base = Pyrtl.evalSeq f ns (look m base) := by
  induction ns generalizing m with
  | nil => rfl
  | cons n ns ih =>
    simp only [evalSeq, Pyrtl.evalSeq]
    rw [ih, look_insert]

end Pyrtl.Fast
