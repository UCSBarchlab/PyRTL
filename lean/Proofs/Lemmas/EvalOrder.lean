import Model.Core.Topo
/-!
# Order-independence of sequential netlist evaluation

An acyclic netlist has exactly one consistent valuation (uniqueness by induction along a dependency order), and
evaluating the nets one after another in *any* dependency order yields it.  The executable checker `isTopo` is sound
for `Topo`, and the linear-time one the driver runs equals it.
-/
namespace Pyrtl

def Consistent (f : Net → List Nat → Nat) (nets : List Net) (e v : Env) : Prop :=
  (∀ n ∈ nets, v n.dest = f n (n.args.map v)) ∧ (∀ w, (∀ n ∈ nets, n.dest ≠ w) → v w = e w)

theorem upd_ne {e : Env} {k v x : Nat} (h : x ≠ k) : upd e k v x = e x := if_neg h
theorem upd_eq {e : Env} {k v : Nat} : upd e k v k = v := if_pos rfl

theorem evalSeq_append (f : Net → List Nat → Nat) (a b : List Net) (e : Env) :
    evalSeq f (a ++ b) e = evalSeq f b (evalSeq f a e) := by
  induction a generalizing e with
  | nil => rfl
  | cons n ns ih => simp only [List.cons_append, evalSeq, ih]

theorem evalSeq_off {f : Net → List Nat → Nat} {e : Env} (ns : List Net) (w : Nat)
    (h : ∀ n ∈ ns, n.dest ≠ w) : evalSeq f ns e w = e w := by
  induction ns generalizing e with
  | nil => rfl
  | cons n ns ih =>
    obtain ⟨hn, h⟩ := List.forall_mem_cons.mp h
    rw [evalSeq, ih h, upd_ne hn.symm]

theorem topo_wire_induction (all : List Net) (hto : Topo all all []) (P : Nat → Prop)
    (src : ∀ w, (∀ n ∈ all, n.dest ≠ w) → P w) (step : ∀ n ∈ all, (∀ a ∈ n.args, P a) → P n.dest) :
    ∀ w, P w := by
  have hdest : ∀ (ns : List Net) (done : List Nat), (∀ n ∈ ns, n ∈ all) → Topo all ns done → (∀ w ∈ done, P w) →
      ∀ n ∈ ns, P n.dest := by
    intro ns
    induction ns with
    | nil => intro _ _ _ _ n hn; simp at hn
    | cons m ms ih =>
      intro done hsub ⟨hargs, _, hrest⟩ hdone
      obtain ⟨hmall, hsub⟩ := List.forall_mem_cons.mp hsub
      have hm : P m.dest := step m hmall fun a ha => (hargs a ha).elim (hdone a) (src a)
      exact List.forall_mem_cons.mpr ⟨hm, ih _ hsub hrest (List.forall_mem_cons.mpr ⟨hm, hdone⟩)⟩
  intro w
  by_cases hw : ∃ n ∈ all, n.dest = w
  · obtain ⟨n, hn, rfl⟩ := hw
    exact hdest all [] (fun _ h => h) hto (by simp) n hn
  · exact src w fun n hn h => hw ⟨n, hn, h⟩

theorem consistent_unique {f : Net → List Nat → Nat} {all : List Net} {e v1 v2 : Env}
    (htopo : Topo all all []) (h1 : Consistent f all e v1) (h2 : Consistent f all e v2) :
    ∀ w, v1 w = v2 w := by
  refine topo_wire_induction all htopo (fun w => v1 w = v2 w) (fun w hw => by rw [h1.2 w hw, h2.2 w hw])
    fun n hn ih => ?_
  rw [h1.1 n hn, h2.1 n hn, List.map_congr_left ih]

theorem topo_append {all l1 l2 : List Net} {done : List Nat}
    (h1 : Topo all l1 done) (h2 : Topo all l2 ((l1.map Net.dest).reverse ++ done)) : Topo all (l1 ++ l2) done := by
  induction l1 generalizing done with
  | nil => simpa using h2
  | cons m ms ih =>
    obtain ⟨ha, hd, hrest⟩ := h1
    refine ⟨ha, hd, ih hrest ?_⟩
    simpa [List.map_cons, List.reverse_cons, List.append_assoc] using h2

theorem topo_dest_not_done {all ns : List Net} {done : List Nat} (h : Topo all ns done) : ∀ k ∈ ns, k.dest ∉ done := by
  induction ns generalizing done with
  | nil => intro k hk; simp at hk
  | cons m ms ih =>
    obtain ⟨_, hmd, hrest⟩ := h
    exact List.forall_mem_cons.mpr ⟨hmd, fun k hk hmem => ih hrest k hk (List.mem_cons_of_mem _ hmem)⟩

theorem evalSeq_consistent_aux {f : Net → List Nat → Nat} {all ns : List Net} {done : List Nat} (e : Env)
    (hsub : ∀ n ∈ ns, n ∈ all) (htopo : Topo all ns done) :
    ∀ n ∈ ns, evalSeq f ns e n.dest = f n (n.args.map (evalSeq f ns e)) := by
  induction ns generalizing done e with
  | nil => intro n hn; simp at hn
  | cons n ms ih =>
    refine List.forall_mem_cons.mpr ⟨?_, ih _ (fun k hk => hsub k (List.mem_cons_of_mem _ hk)) htopo.2.2⟩
    -- no net of `n :: ms` writes an argument of `n`: it is done already, or undriven
    have hfresh := topo_dest_not_done htopo
    have hargs : n.args.map (evalSeq f (n :: ms) e) = n.args.map e :=
      List.map_congr_left fun a ha => evalSeq_off _ a fun k hk hka =>
        (htopo.1 a ha).elim (fun hd => hfresh k hk (hka ▸ hd)) (fun hsrc => hsrc k (hsub k hk) hka)
    have hlater := topo_dest_not_done htopo.2.2
    rw [hargs, evalSeq, evalSeq_off ms n.dest fun k hk h => hlater k hk (h ▸ List.mem_cons_self), upd_eq]

theorem evalSeq_consistent (f : Net → List Nat → Nat) (all : List Net) (e : Env)
    (htopo : Topo all all []) : Consistent f all e (evalSeq f all e) :=
  ⟨evalSeq_consistent_aux e (fun _ h => h) htopo, evalSeq_off all⟩

theorem eval_any_topo_order (f : Net → List Nat → Nat) (l1 l2 : List Net) (e : Env)
    (hp : ∀ n, n ∈ l1 ↔ n ∈ l2) (h1 : Topo l1 l1 []) (h2 : Topo l2 l2 []) :
    ∀ w, evalSeq f l1 e w = evalSeq f l2 e w := by
  have c1 := evalSeq_consistent f l1 e h1
  have c2 := evalSeq_consistent f l2 e h2
  have c2' : Consistent f l1 e (evalSeq f l2 e) :=
    ⟨fun n hn => c2.1 n ((hp n).mp hn), fun w hw => c2.2 w (fun n hn => hw n ((hp n).mpr hn))⟩
  exact consistent_unique h1 c1 c2'

theorem run_any_topo_order (b : Block) (o1 o2 : List Net) (hp : ∀ n, n ∈ o1 ↔ n ∈ o2)
    (h1 : Topo o1 o1 []) (h2 : Topo o2 o2 []) (inps : List Env) (st : State) :
    run b o1 st inps = run b o2 st inps := by
  induction inps generalizing st with
  | nil => rfl
  | cons inp rest ih =>
    have henv : evalNets b st o1 (baseEnv b st inp) = evalNets b st o2 (baseEnv b st inp) :=
      funext (eval_any_topo_order (netFun b st) o1 o2 _ hp h1 h2)
    simp only [run, step, henv, ih]

theorem isTopoFrom_sound {all ns : List Net} {done : List Nat} (h : isTopoFrom (all.map Net.dest) ns done = true) :
    Topo all ns done := by
  induction ns generalizing done with
  | nil => trivial
  | cons n ns ih =>
    simp only [isTopoFrom, Bool.and_eq_true, List.all_eq_true, Bool.or_eq_true,
      Bool.not_eq_true', List.contains_eq_mem, decide_eq_true_eq, decide_eq_false_iff_not] at h
    obtain ⟨⟨hargs, hnd⟩, hrest⟩ := h
    exact ⟨fun a ha => (hargs a ha).imp_right fun hsrc m hm hma => hsrc (List.mem_map.mpr ⟨m, hm, hma⟩),
      hnd, ih hrest⟩

theorem isTopo_sound (order : List Net) (h : isTopo order = true) : Topo order order [] :=
  isTopoFrom_sound h

theorem isTopoFastFrom_eq {driven : Std.HashSet Nat} {drivenL : List Nat}
    (hd : ∀ x, driven.contains x = drivenL.contains x) {ns : List Net} {done : Std.HashSet Nat} {doneL : List Nat}
    (h : ∀ x, done.contains x = doneL.contains x) :
    isTopoFastFrom driven ns done = isTopoFrom drivenL ns doneL := by
  induction ns generalizing done doneL with
  | nil => rfl
  | cons n ns ih =>
    have hins : ∀ x, (done.insert n.dest).contains x = (n.dest :: doneL).contains x := fun x => by
      rw [Std.HashSet.contains_insert, List.contains_cons, h x, BEq.comm (a := x)]
    simp only [isTopoFastFrom, isTopoFrom, ih hins, h, hd]

/-- the linear-time checker the driver runs is the checker `isTopo_sound` is about -/
theorem isTopoFast_eq (order : List Net) : isTopoFast order = isTopo order := by
  unfold isTopoFast isTopo
  exact isTopoFastFrom_eq (fun x => Std.HashSet.contains_ofList) (fun x => by simp)

end Pyrtl
