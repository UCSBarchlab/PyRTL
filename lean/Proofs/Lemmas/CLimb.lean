import Proofs.Lemmas.CLimbArith
/-!
# The C statements of one net, executed

`CompiledSimulation._build_*` for `w ~ & | ^ nand x + -` emit one loop `for n in range(limbs(dest))` whose round `n`
leaves in `dest[n]` the `n`-th limb of one number `V` (an operand, a bitwise combination, a complement, the sum, the
two's-complement difference), the top limb masked by `_makemask`.  `loop_dest` says what such a loop leaves in the
destination and `destVal_masked` reads the limbs back as `V mod 2^wd`; each operation then only says which `V` it is.
`_build_mul` keeps an invariant of its own through the same induction over a loop, `loop_inv`.
-/
namespace Pyrtl.CLimb

theorem get_set_same (σ : Env) (x : Var) (n : Nat) : (σ.set x n).get x = n := by
  simp [Env.get, Env.set]

theorem get_set_ne {σ : Env} {x y : Var} {n : Nat} (h : y ≠ x) : (σ.set x n).get y = σ.get y := by
  have : ((x == y) = false) := by simpa using (fun e => h e.symm)
  simp [Env.get, Env.set, this]

/-- With `reduceCtorEq` and `Var.dest.injEq` this lets `simp only` run a list of assignments: every read of the
    final store becomes a read of the initial one. -/
theorem get_set (σ : Env) (x y : Var) (n : Nat) : (σ.set x n).get y = if y = x then n else σ.get y := by
  by_cases h : y = x
  · rw [h, get_set_same, if_pos rfl]
  · rw [get_set_ne h, if_neg h]

theorem execList_append (σ : Env) (p q : List S) : execList σ (p ++ q) = execList (execList σ p) q := by
  induction p generalizing σ with
  | nil => rfl
  | cons s rest ih => simp only [List.cons_append, execList, ih]

def Enc (σ : Env) (k V : Nat) : Prop := ∀ l, σ.get (.arg k l) = limbOf V l

def SameArgs (σ σ0 : Env) : Prop := ∀ k l, σ.get (.arg k l) = σ0.get (.arg k l)

theorem Enc_of_same {σ σ0 : Env} {k V : Nat} (h : Enc σ0 k V) (hs : SameArgs σ σ0) : Enc σ k V :=
  fun l => by rw [hs k l]; exact h l

theorem argLimb_eval (σ : Env) (k w n : Nat) :
    (argLimb k w n).eval σ = if 64 * n < w then σ.get (.arg k n) else 0 := by
  unfold argLimb
  split <;> simp [E.eval]

/-- What `argLimb_eval` leaves of a read inside a list of assignments once `get_set` has pushed it back to the store
    where `Enc` is known; `eval_argLimb` is the two in one step, for a read in that store itself. -/
theorem read_argLimb {σ : Env} {k w V : Nat} (hE : Enc σ k V) (hV : V < 2 ^ w) (n : Nat) :
    (if 64 * n < w then σ.get (.arg k n) else 0) = limbOf V n := by
  split
  · exact hE n
  · exact (limbOf_zero_of_lt hV (by omega)).symm

theorem eval_argLimb {σ : Env} {k w V : Nat} (hE : Enc σ k V) (hV : V < 2 ^ w) (n : Nat) :
    (argLimb k w n).eval σ = limbOf V n := by
  rw [argLimb_eval, read_argLimb hE hV]

def destVal (σ : Env) : Nat → Nat
  | 0 => 0
  | L + 1 => destVal σ L + σ.get (.dest L) * 2 ^ (64 * L)

theorem destVal_congr {σ σ' : Env} {n : Nat} (h : ∀ l, l < n → σ'.get (.dest l) = σ.get (.dest l)) :
    destVal σ' n = destVal σ n := by
  induction n with
  | zero => rfl
  | succ n ih =>
    simp only [destVal, ih (fun l hl => h l (Nat.lt_succ_of_lt hl)), h n (Nat.lt_succ_self n)]

theorem destVal_set_dest (σ : Env) (n v : Nat) : destVal (σ.set (.dest n) v) n = destVal σ n :=
  destVal_congr fun _ hl => get_set_ne fun e => Nat.ne_of_lt hl (Var.dest.inj e)

theorem destVal_of_limbs {σ : Env} (V : Nat) {n : Nat} (h : ∀ l, l < n → σ.get (.dest l) = limbOf V l) :
    destVal σ n = V % 2 ^ (64 * n) := by
  induction n with
  | zero => simp [destVal, Nat.mod_one]
  | succ n ih =>
    rw [destVal, ih (fun l hl => h l (Nat.lt_succ_of_lt hl)), h n (Nat.lt_succ_self n), mod_succ_limb]; ring

def masked (wd : Nat) (res : Option Nat) (n x : Nat) : Nat :=
  if maskCond wd res n = true then x % 2 ^ (wd % 64) else x

theorem eval_mask (σ : Env) (wd : Nat) (res : Option Nat) (pos : Nat) (e : E) :
    (mask wd res pos e).eval σ = masked wd res pos (e.eval σ) := by
  unfold mask masked
  split
  · have hlt : 2 ^ (wd % 64) - 1 < M :=
      lt_of_le_of_lt (Nat.sub_le _ _) (Nat.pow_lt_pow_right (by decide) (Nat.mod_lt _ (by decide)))
    simp only [E.eval, Nat.mod_eq_of_lt hlt, Nat.and_two_pow_sub_one_eq_mod]
  · rfl

theorem maskCond_eq_true (wd : Nat) (res : Option Nat) (n : Nat) :
    maskCond wd res n = true ↔ (∀ rr, res = some rr → wd < rr) ∧ 0 < wd - 64 * n ∧ wd - 64 * n < 64 := by
  cases res <;> simp [maskCond, and_assoc]

theorem maskCond_natural (wd n : Nat) : maskCond wd (some wd) n = false := by
  rw [← Bool.not_eq_true, maskCond_eq_true]
  exact fun h => absurd (h.1 wd rfl) (Nat.lt_irrefl _)

theorem masked_of_lt {wd : Nat} {res : Option Nat} {n x : Nat} (h : n + 1 < limbs wd) : masked wd res n x = x := by
  have := (lt_limbs_iff wd (n + 1)).mp h
  rw [masked, if_neg]
  rw [maskCond_eq_true]
  omega

/-- `_makemask(dest, res, pos)`: `res` is a width the unmasked result is known to fit (`hres`). -/
theorem masked_limbOf {wd : Nat} {res : Option Nat} {V n : Nat} (hn : n < limbs wd)
    (hres : res.elim True (V < 2 ^ ·)) :
    masked wd res n (limbOf V n) = limbOf (V % 2 ^ wd) n := by
  have h := (lt_limbs_iff wd n).mp hn
  obtain ⟨r, rfl, hr0⟩ : ∃ r, wd = 64 * n + r ∧ 0 < r :=
    ⟨wd - 64 * n, (Nat.add_sub_cancel' h.le).symm, Nat.sub_pos_of_lt h⟩
  rw [limbOf, limbOf, Nat.pow_add, Nat.mod_mul_right_div_self]
  simp only [masked, maskCond_eq_true, Nat.add_sub_cancel_left]
  split
  · rename_i hm
    have hdvd : 2 ^ r ∣ M := Nat.pow_dvd_pow 2 hm.2.2.le
    rw [Nat.mul_add_mod, Nat.mod_eq_of_lt hm.2.2, Nat.mod_mod_of_dvd _ hdvd,
      Nat.mod_eq_of_lt (lt_of_lt_of_le (Nat.mod_lt _ (Nat.two_pow_pos r)) (Nat.le_of_dvd M_pos hdvd))]
  · rename_i hm
    rcases Nat.lt_or_ge r 64 with hr | hr
    · -- not masked although the limb is partial: `res ≤ wd`, so `V` fits
      obtain ⟨rr, rfl, hle⟩ : ∃ rr, res = some rr ∧ rr ≤ 64 * n + r := by
        by_contra hne
        exact hm ⟨fun rr hrr => Nat.lt_of_not_le fun hle => hne ⟨rr, hrr, hle⟩, hr0, hr⟩
      rw [Nat.mod_eq_of_lt (div_two_pow_lt (lt_two_pow_of_le hres hle))]
    · exact (mod_mod_le hr).symm

theorem destVal_masked {σ : Env} {wd : Nat} (res : Option Nat) {V : Nat}
    (h : ∀ n, n < limbs wd → σ.get (.dest n) = masked wd res n (limbOf V n))
    (hres : res.elim True (V < 2 ^ ·)) :
    destVal σ (limbs wd) = V % 2 ^ wd := by
  rw [destVal_of_limbs (V % 2 ^ wd) fun n hn => (h n hn).trans (masked_limbOf hn hres)]
  exact Nat.mod_eq_of_lt (lt_pow_limbs (Nat.mod_lt _ (Nat.two_pow_pos wd)) le_rfl)

theorem loop_inv (body : Nat → List S) (I : Nat → Env → Prop) {σ0 : Env} (h0 : I 0 σ0) (L : Nat)
    (hstep : ∀ n σ, n < L → I n σ → I (n + 1) (execList σ (body n))) :
    I L (execList σ0 ((List.range L).map body).flatten) := by
  induction L with
  | zero => exact h0
  | succ L ih =>
    rw [List.range_succ, List.map_append, List.flatten_append, execList_append, List.map_singleton,
      List.flatten_singleton]
    exact hstep L _ (Nat.lt_succ_self L) (ih fun n σ hn => hstep n σ (Nat.lt_succ_of_lt hn))

theorem loop_dest {σ0 : Env} {L : Nat} {body : Nat → List S} {d : Nat → Nat} (I : Nat → Env → Prop) (h0 : I 0 σ0)
    (hbody : ∀ n σ, n < L → I n σ →
      (execList σ (body n)).get (.dest n) = d n ∧
      (∀ l, l ≠ n → (execList σ (body n)).get (.dest l) = σ.get (.dest l)) ∧
      I (n + 1) (execList σ (body n))) :
    I L (execList σ0 ((List.range L).map body).flatten) ∧
      ∀ n, n < L → (execList σ0 ((List.range L).map body).flatten).get (.dest n) = d n :=
  loop_inv body (fun m σ => I m σ ∧ ∀ n, n < m → σ.get (.dest n) = d n)
    ⟨h0, fun n hn => absurd hn n.not_lt_zero⟩ L
    fun m σ hm ⟨hI, hd⟩ => by
      obtain ⟨h1, h2, h3⟩ := hbody m σ hm hI
      refine ⟨h3, fun n hn => ?_⟩
      by_cases hnm : n = m
      · rw [hnm]; exact h1
      · rw [h2 n hnm]; exact hd n (Nat.lt_of_le_of_ne (Nat.le_of_lt_succ hn) hnm)

theorem assign_loop (σ0 : Env) (L : Nat) (g : Nat → E) (d : Nat → Nat)
    (hg : ∀ n σ, n < L → SameArgs σ σ0 → (g n).eval σ = d n) :
    SameArgs (execList σ0 ((List.range L).map fun i => S.assign (.dest i) (g i))) σ0 ∧
    ∀ n, n < L → (execList σ0 ((List.range L).map fun i => S.assign (.dest i) (g i))).get (.dest n) = d n := by
  rw [List.map_eq_flatMap, List.flatMap_def]
  refine loop_dest (fun _ σ => SameArgs σ σ0) (fun _ _ => rfl) (fun n σ hn hs => ?_)
  simp only [execList, S.exec, hg n σ hn hs, get_set, if_true, Var.dest.injEq]
  exact ⟨trivial, fun l hl => if_neg hl, fun k l => by rw [get_set, if_neg (by simp)]; exact hs k l⟩

theorem limbwise_correct {σ0 : Env} {wd : Nat} (res : Option Nat) {f : Nat → E} {V : Nat}
    (hf : ∀ n σ, n < limbs wd → SameArgs σ σ0 → (f n).eval σ = limbOf V n)
    (hres : res.elim True (V < 2 ^ ·)) :
    destVal (execList σ0 ((List.range (limbs wd)).map fun i => S.assign (.dest i) (mask wd res i (f i))))
      (limbs wd) = V % 2 ^ wd :=
  destVal_masked res (assign_loop σ0 _ _ _ fun n σ hn hs => by rw [eval_mask, hf n σ hn hs]).2 hres

/-- `w`, and either branch of `x` -/
theorem copyArg_correct {σ0 : Env} {k w V : Nat} (wd : Nat) (hV : V < 2 ^ w) (hE : Enc σ0 k V) :
    destVal (execList σ0 ((List.range (limbs wd)).map fun n =>
      S.assign (.dest n) (mask wd (some w) n (.v (.arg k n))))) (limbs wd) = V % 2 ^ wd :=
  limbwise_correct (some w) (fun n σ _ hs => by simp only [E.eval, hs k n, hE n]) hV

theorem emitWire_correct {σ0 : Env} {wa A : Nat} (wd : Nat) (hA : A < 2 ^ wa) (h0 : Enc σ0 0 A) :
    destVal (execList σ0 (emitWire wa wd)) (limbs wd) = A % 2 ^ wd :=
  copyArg_correct wd hA h0

theorem emitMux_correct {σ0 : Env} {wf wt Sv F T : Nat} (wd : Nat) (hS : Sv < 2 ^ 1) (hF : F < 2 ^ wf)
    (hT : T < 2 ^ wt) (hs : Enc σ0 0 Sv) (h1 : Enc σ0 1 F) (h2 : Enc σ0 2 T) :
    destVal (execList σ0 (emitMux wf wt wd)) (limbs wd) = (if Sv = 0 then F else T) % 2 ^ wd := by
  have hl : limbOf Sv 0 = Sv := by
    rw [limbOf, Nat.mul_zero, Nat.pow_zero, Nat.div_one, Nat.mod_eq_of_lt (lt_trans hS (by decide))]
  simp only [emitMux, execList, S.exec, E.eval, hs 0, hl, bne_iff_ne, ne_eq, ite_not]
  split
  · exact copyArg_correct wd hF h1
  · exact copyArg_correct wd hT h2

def BitOp.fn : BitOp → Nat → Nat → Nat
  | .and => (· &&& ·) | .or => (· ||| ·) | .xor => (· ^^^ ·)

theorem bitop_lt (op : BitOp) {A B w : Nat} (hA : A < 2 ^ w) (hB : B < 2 ^ w) : op.fn A B < 2 ^ w := by
  cases op <;> exact Nat.bitwise_lt_two_pow hA hB

theorem emitBitwise_correct (op : BitOp) {σ0 : Env} {wa wb A B : Nat} (wd : Nat) (hA : A < 2 ^ wa) (hB : B < 2 ^ wb)
    (h0 : Enc σ0 0 A) (h1 : Enc σ0 1 B) :
    destVal (execList σ0 (emitBitwise op wa wb wd)) (limbs wd) = op.fn A B % 2 ^ wd := by
  refine limbwise_correct (some (max wa wb)) (fun n σ _ hs => ?_)
    (bitop_lt op (lt_two_pow_of_le hA (Nat.le_max_left _ _)) (lt_two_pow_of_le hB (Nat.le_max_right _ _)))
  have ea := eval_argLimb (Enc_of_same h0 hs) hA n
  have eb := eval_argLimb (Enc_of_same h1 hs) hB n
  cases op <;> simp only [E.eval, ea, eb, BitOp.fn, limbOf_and, limbOf_or, limbOf_xor]

/-- `_build_not`, `_build_nand`: the top limb is always masked (`res = None`) -/
theorem complement_correct {σ0 : Env} {wx X : Nat} {e : Nat → E} (wd : Nat) (hX : X < 2 ^ wx)
    (he : ∀ n σ, SameArgs σ σ0 → (e n).eval σ = limbOf X n) :
    destVal (execList σ0 ((List.range (limbs wd)).map fun n => S.assign (.dest n) (mask wd none n (.bnot (e n)))))
      (limbs wd) = 2 ^ wd - 1 - X % 2 ^ wd := by
  have hK : limbs wd ≤ max (limbs wx) (limbs wd) := Nat.le_max_right _ _
  have hXK : X < 2 ^ (64 * max (limbs wx) (limbs wd)) := lt_pow_limbs hX (Nat.le_max_left _ _)
  rw [← compl_trunc (le_of_limbs_le hK), Nat.mod_eq_of_lt hXK]
  refine limbwise_correct none (fun n σ hn hs => ?_) trivial
  rw [E.eval, he n σ hs, Nat.mod_eq_of_lt (limbOf_lt _ n), limbOf_compl n hXK (Nat.lt_of_lt_of_le hn hK)]

theorem emitNot_correct {σ0 : Env} {wa A : Nat} (wd : Nat) (hA : A < 2 ^ wa) (h0 : Enc σ0 0 A) :
    destVal (execList σ0 (emitNot wd)) (limbs wd) = 2 ^ wd - 1 - A % 2 ^ wd :=
  complement_correct wd hA fun n σ hs => by rw [E.eval, hs 0 n, h0 n]

theorem emitNand_correct {σ0 : Env} {wa wb A B : Nat} (wd : Nat) (hA : A < 2 ^ wa) (hB : B < 2 ^ wb)
    (h0 : Enc σ0 0 A) (h1 : Enc σ0 1 B) :
    destVal (execList σ0 (emitNand wa wb wd)) (limbs wd) = 2 ^ wd - 1 - (A &&& B) % 2 ^ wd :=
  complement_correct wd (lt_of_le_of_lt Nat.and_le_left hA) fun n σ hs => by
      rw [E.eval, eval_argLimb (Enc_of_same h0 hs) hA, eval_argLimb (Enc_of_same h1 hs) hB, limbOf_and]

def evalOr (σ : Env) : List E → Nat
  | [] => 0
  | e :: rest => rest.foldl (fun acc x => acc ||| x.eval σ) (e.eval σ)

theorem eval_orAll (σ : Env) (res : List E) : (orAll res).eval σ = evalOr σ res := by
  cases res with
  | nil => simp [orAll, evalOr, E.eval]
  | cons e rest => exact (List.foldl_hom (E.eval σ) fun _ _ => rfl).symm

theorem evalOr_snoc (σ : Env) (res : List E) (t : E) : evalOr σ (res ++ [t]) = evalOr σ res ||| t.eval σ := by
  cases res with
  | nil => simp [evalOr]
  | cons e rest => simp only [List.cons_append, evalOr, List.foldl_append, List.foldl_cons, List.foldl_nil]

theorem evalOr_cons (σ : Env) (e : E) (rest : List E) : evalOr σ (e :: rest) = e.eval σ ||| evalOr σ rest := by
  cases rest with
  | nil => simp [evalOr]
  | cons x xs =>
    simp only [evalOr, List.foldl_cons]
    rw [← List.foldl_map (f := E.eval σ) (g := (· ||| ·)), ← List.foldl_map (f := E.eval σ) (g := (· ||| ·)),
      List.foldl_assoc]

theorem evalOr_congr (σ σ' : Env) (res : List E) (h : ∀ e ∈ res, e.eval σ' = e.eval σ) :
    evalOr σ' res = evalOr σ res := by
  induction res with
  | nil => rfl
  | cons e rest ih =>
    obtain ⟨he, h⟩ := List.forall_mem_cons.mp h
    rw [evalOr_cons, evalOr_cons, he, ih h]

theorem pow_mul_bit_lt (A b k : Nat) : 2 ^ k * Spec.bit A b < 2 ^ (k + 1) := by
  rw [Nat.pow_succ]; exact Nat.mul_lt_mul_of_pos_left (Spec.bit_lt_two A b) (Nat.two_pow_pos k)

theorem eval_selTerm (σ : Env) (A b en : Nat) (h0 : Enc σ 0 A) (hen : en < 64) :
    (E.shl (.band (.lit 1) (.shr (.v (.arg 0 (b / 64))) (b % 64))) en).eval σ = 2 ^ en * Spec.bit A b := by
  simp only [E.eval, h0 (b / 64), Nat.mod_eq_of_lt one_lt_M, Nat.one_and_eq_mod_two, bit_of_limb]
  rw [Nat.mul_comm]
  exact Nat.mod_eq_of_lt (lt_two_pow_of_le (pow_mul_bit_lt A b en) hen)

theorem evalOr_sel {σ : Env} {A : Nat} (h0 : Enc σ 0 A) (sl : List Nat) (k : Nat) (hk : k + sl.length ≤ 64) :
    evalOr σ ((sl.zipIdx k).map fun (p : Nat × Nat) =>
        E.shl (.band (.lit 1) (.shr (.v (.arg 0 (p.1 / 64))) (p.1 % 64))) p.2) = 2 ^ k * Spec.selectVal sl A := by
  induction sl generalizing k with
  | nil => rfl
  | cons b sl ih =>
    rw [List.length_cons] at hk
    rw [List.zipIdx_cons, List.map_cons, evalOr_cons, ih (k + 1) (by omega), eval_selTerm σ A b k h0 (by omega),
      or_place (pow_mul_bit_lt A b k), Spec.selectVal, Nat.pow_succ]
    ring

theorem emitSelect_correct (σ0 : Env) (idx : List Nat) (wd A : Nat) (h0 : Enc σ0 0 A) :
    destVal (execList σ0 (emitSelect idx wd)) (limbs wd) = Spec.selectVal (idx.take wd) A := by
  rw [← Nat.mod_eq_of_lt (lt_pow_limbs (Spec.selectVal_take_lt idx wd A) le_rfl)]
  refine destVal_of_limbs _ (assign_loop σ0 _ _ _ fun n σ _ hs => ?_).2
  -- limb `n` selects with the slice `drop (64 n) |>.take 64` of the indices; `min wd (64 (n + 1)) - 64 n` is its length
  rw [← Nat.sub_min_sub_right, Nat.mul_succ, Nat.add_sub_cancel_left, Nat.min_comm, eval_orAll,
    evalOr_sel (Enc_of_same h0 hs) _ 0
      (by rw [Nat.zero_add]; exact le_trans (List.length_take_le _ _) (Nat.min_le_left _ _)),
    Nat.pow_zero, Nat.one_mul, limbOf_selectVal, List.drop_take, List.take_take]

theorem emitAdd_correct {σ0 : Env} {wa wb A B : Nat} (wd : Nat) (hA : A < 2 ^ wa) (hB : B < 2 ^ wb)
    (h0 : Enc σ0 0 A) (h1 : Enc σ0 1 B) :
    destVal (execList σ0 (emitAdd wa wb wd)) (limbs wd) = (A + B) % 2 ^ wd := by
  rw [emitAdd, execList]
  -- `carry` holds the carry into the limb at hand, but only while `n < limbs wd`: the last round's limb may be masked,
  -- and `dest[n] < tmp` does not reveal the carry then
  refine destVal_masked (some (max wa wb + 1)) (loop_dest
    (fun n σ => Enc σ 0 A ∧ Enc σ 1 B ∧ (n < limbs wd → σ.get .carry = carryAt A B 0 n)) ?_
    (fun n σ hn ⟨e0, e1, hc⟩ => ?_)).2 (add_lt_two_pow_max hA hB)
  · simp only [S.exec, E.eval, Enc, Nat.zero_mod, get_set, reduceCtorEq, if_false, if_true, carryAt_zero]
    exact ⟨h0, h1, fun _ => trivial⟩
  · have ha := limbOf_lt A n
    have hb := limbOf_lt B n
    have hcy := carryAt_le_one A B 0 n (Nat.zero_le 1)
    obtain ⟨hsum, hcar⟩ := add_carry ha hb (lt_of_le_of_lt hcy one_lt_M) (by omega)
    simp only [execList, S.exec, E.eval, eval_mask, argLimb_eval, Enc, get_set, reduceCtorEq, if_false,
      if_true, Var.dest.injEq, read_argLimb e0 hA n, read_argLimb e1 hB n, hc hn, hsum]
    refine ⟨?_, fun l hl => if_neg hl, e0, e1, fun hn1 => ?_⟩
    · rw [← Nat.add_zero (A + B), limbOf_add]
    · rw [masked_of_lt hn1, carryAt_succ, ← hcar, hsum]

/-- The difference is taken as `A + ~B + 1`, the complement within `K` limbs that hold `B` and are not fewer than the
    destination's; `carry` holds the borrow, which is the inverted carry of that sum. -/
theorem emitSub_correct {σ0 : Env} {wa wb A B : Nat} (wd : Nat) (hA : A < 2 ^ wa) (hB : B < 2 ^ wb)
    (h0 : Enc σ0 0 A) (h1 : Enc σ0 1 B) :
    destVal (execList σ0 (emitSub wa wb wd)) (limbs wd) = (((A : Int) - (B : Int)) % ((2 ^ wd : Nat) : Int)).toNat := by
  have hK : limbs wd ≤ max (limbs wb) (limbs wd) := Nat.le_max_right _ _
  have hBK := lt_pow_limbs hB (Nat.le_max_left (limbs wb) (limbs wd))
  rw [sub_emod A B _ wd hBK (Nat.pow_dvd_pow 2 (le_of_limbs_le hK)), emitSub, execList]
  generalize max (limbs wb) (limbs wd) = K at hK hBK ⊢
  refine destVal_masked none (loop_dest
    (fun n σ => Enc σ 0 A ∧ Enc σ 1 B ∧ (n < limbs wd → σ.get .carry + carryAt A (2 ^ (64 * K) - 1 - B) 1 n = 1)) ?_
    (fun n σ hn ⟨e0, e1, hc⟩ => ?_)).2 trivial
  · simp only [S.exec, E.eval, Enc, Nat.zero_mod, get_set, reduceCtorEq, if_false, if_true, carryAt_zero]
    exact ⟨h0, h1, fun _ => trivial⟩
  · obtain ⟨hd, hbor⟩ := sub_borrow (limbOf_lt A n) (limbOf_lt B n) (hc hn) one_lt_M
    simp only [execList, S.exec, E.eval, eval_mask, argLimb_eval, Enc, get_set, reduceCtorEq, if_false,
      if_true, Var.dest.injEq, read_argLimb e0 hA n, read_argLimb e1 hB n, hd]
    refine ⟨?_, fun l hl => if_neg hl, e0, e1, fun hn1 => ?_⟩
    · rw [limbOf_add, limbOf_compl n hBK (Nat.lt_of_lt_of_le hn hK)]
    · rw [masked_of_lt hn1, carryAt_succ, limbOf_compl n hBK (Nat.lt_of_lt_of_le hn hK), ← hd]
      exact hbor

theorem andAll_snoc {l : List E} {x : E} (h : l ≠ []) : andAll (l ++ [x]) = .land (andAll l) x := by
  cases l with
  | nil => exact absurd rfl h
  | cons e rest => simp only [List.cons_append, andAll, List.foldl_append, List.foldl_cons, List.foldl_nil]

theorem eq_fold {σ : Env} {a b : Nat → E} {A B : Nat} (ha : ∀ i, (a i).eval σ = limbOf A i)
    (hb : ∀ i, (b i).eval σ = limbOf B i) {L : Nat} (hL : 0 < L) :
    (andAll ((List.range L).map fun i => E.eq (a i) (b i))).eval σ
      = b2n (decide (A % 2 ^ (64 * L) = B % 2 ^ (64 * L))) := by
  induction L, hL using Nat.le_induction with
  | base =>
    simp only [Nat.zero_add, List.range_one, List.map_cons, List.map_nil, andAll, List.foldl_nil, E.eval, ha, hb,
      mod_succ_limb _ 0, Nat.mul_zero, Nat.pow_zero, Nat.mod_one, Nat.one_mul, beq_eq_decide]
  | succ n hn ih =>
    rw [List.range_succ, List.map_append, List.map_singleton, andAll_snoc (by simp; omega), E.eval, ih, E.eval,
      ha, hb, b2n_ne_zero, b2n_ne_zero, mod_succ_limb A n, mod_succ_limb B n,
      eq_step (Nat.mod_lt A (Nat.two_pow_pos _)) (Nat.mod_lt B (Nat.two_pow_pos _))]

theorem emitEq_correct {σ0 : Env} {wa wb A B : Nat} (hA : A < 2 ^ wa) (hB : B < 2 ^ wb)
    (h0 : Enc σ0 0 A) (h1 : Enc σ0 1 B) (hwa : 0 < wa) :
    (execList σ0 (emitEq wa wb)).get (.dest 0) = b2n (decide (A = B)) := by
  have hL : 0 < max (limbs wa) (limbs wb) := lt_of_lt_of_le (limbs_pos hwa) (Nat.le_max_left _ _)
  simp only [emitEq, execList, S.exec, get_set_same,
    eq_fold (eval_argLimb h0 hA) (eval_argLimb h1 hB) hL]
  rw [Nat.mod_eq_of_lt (lt_pow_limbs hA (Nat.le_max_left _ _)),
    Nat.mod_eq_of_lt (lt_pow_limbs hB (Nat.le_max_right _ _))]

def cmpStep (isLt : Bool) (a b : Nat → E) (cond : Option E) (n : Nat) : Option E :=
  let c := if isLt then E.lt (a n) (b n) else E.gt (a n) (b n)
  match cond with
  | none => some c
  | some inner => some (.lor c (.land (.eq (a n) (b n)) inner))

theorem emitCmp_eq (isLt : Bool) (wa wb : Nat) :
    emitCmp isLt wa wb
      = match (List.range (max (limbs wa) (limbs wb))).foldl (cmpStep isLt (argLimb 0 wa) (argLimb 1 wb)) none with
      | some c => [.assign (.dest 0) c]
      | none => [] := rfl

theorem cmp_fold (isLt : Bool) {σ : Env} {a b : Nat → E} {A B : Nat} (ha : ∀ i, (a i).eval σ = limbOf A i)
    (hb : ∀ i, (b i).eval σ = limbOf B i) {L : Nat} (hL : 0 < L) :
    ∃ e, (List.range L).foldl (cmpStep isLt a b) none = some e ∧
      e.eval σ = b2n (if isLt then decide (A % 2 ^ (64 * L) < B % 2 ^ (64 * L))
                       else decide (A % 2 ^ (64 * L) > B % 2 ^ (64 * L))) := by
  induction L, hL using Nat.le_induction with
  | base =>
    refine ⟨_, rfl, ?_⟩
    cases isLt <;>
      simp only [E.eval, ha, hb, mod_succ_limb _ 0, Nat.mul_zero, Nat.pow_zero, Nat.mod_one, Nat.zero_add,
        Nat.one_mul, Bool.false_eq_true, if_false, if_true]
  | succ n _ ih =>
    obtain ⟨e, he, hv⟩ := ih
    rw [List.range_succ, List.foldl_append, he]
    refine ⟨_, rfl, ?_⟩
    have hx := Nat.mod_lt A (Nat.two_pow_pos (64 * n))
    have hy := Nat.mod_lt B (Nat.two_pow_pos (64 * n))
    rw [mod_succ_limb A n, mod_succ_limb B n]
    cases isLt
    · -- `>` is `<` with the operands exchanged
      simp only [E.eval, ha, hb, hv, b2n_ne_zero, Bool.false_eq_true, if_false, gt_iff_lt]
      rw [Bool.beq_comm, lex_step hy hx]
    · simp only [E.eval, ha, hb, hv, b2n_ne_zero, if_true]
      rw [lex_step hx hy]

theorem emitCmp_correct (isLt : Bool) {σ0 : Env} {wa wb A B : Nat} (hA : A < 2 ^ wa) (hB : B < 2 ^ wb)
    (h0 : Enc σ0 0 A) (h1 : Enc σ0 1 B) (hwa : 0 < wa) :
    (execList σ0 (emitCmp isLt wa wb)).get (.dest 0) = b2n (if isLt then decide (A < B) else decide (A > B)) := by
  have hL : 0 < max (limbs wa) (limbs wb) := lt_of_lt_of_le (limbs_pos hwa) (Nat.le_max_left _ _)
  obtain ⟨e, he, hv⟩ := cmp_fold isLt (eval_argLimb h0 hA) (eval_argLimb h1 hB) hL
  rw [emitCmp_eq, he]
  simp only [execList, S.exec, get_set_same, hv]
  rw [Nat.mod_eq_of_lt (lt_pow_limbs hA (Nat.le_max_left _ _)),
    Nat.mod_eq_of_lt (lt_pow_limbs hB (Nat.le_max_right _ _))]

def mulCell (wa wb wd p0 p1 : Nat) : List S :=
  [S.mul128 (argLimb 0 wa p0) (argLimb 1 wb p1) .tmplo .tmphi,
   S.assign .tmp (.v (.dest (p0 + p1))),
   S.assign .tmplo (.add (.v .tmplo) (.v .carry)),
   S.assign .carry (.lt (.v .tmplo) (.v .carry)),
   S.assign .tmplo (.add (.v .tmplo) (.v .tmp)),
   S.assign .tmphi (.add (.v .tmphi) (.add (.v .carry) (.lt (.v .tmplo) (.v .tmp)))),
   S.assign .carry (.v .tmphi),
   S.assign (.dest (p0 + p1)) (mask wd (some (wa + wb)) (p0 + p1) (.v .tmplo))]

structure MulInv (σ : Env) (A B L : Nat) : Prop where
  e0 : Enc σ 0 A
  e1 : Enc σ 1 B
  limbs_lt : ∀ l, l < L → σ.get (.dest l) < M

/-- within row `p0`, entered with the store `σr`, before cell `(p0, p1)`: the cells so far have added
    `a_p0 * (B mod 2^(64 p1))` at limb `p0` to the limbs below `p0 + p1`, the carry stands at limb `p0 + p1`, and the
    limbs from there on are as they were -/
structure MulCellInv (σr σ : Env) (A B L p0 p1 : Nat) : Prop extends MulInv σ A B L where
  carry_lt : σ.get .carry < M
  rest : ∀ l, p0 + p1 ≤ l → σ.get (.dest l) = σr.get (.dest l)
  val : destVal σ (p0 + p1) + σ.get .carry * 2 ^ (64 * (p0 + p1))
    = destVal σr (p0 + p1) + 2 ^ (64 * p0) * limbOf A p0 * (B % 2 ^ (64 * p1))

theorem MulCellInv.start {σ : Env} {A B L : Nat} (p0 : Nat) (h : MulInv σ A B L) :
    MulCellInv σ (σ.set .carry 0) A B L p0 0 := by
  have hg : ∀ x, x ≠ .carry → (σ.set .carry 0).get x = σ.get x := fun x hx => get_set_ne hx
  refine ⟨⟨fun l => (hg _ (by simp)).trans (h.e0 l), fun l => (hg _ (by simp)).trans (h.e1 l),
    fun l hl => (hg _ (by simp)).trans_lt (h.limbs_lt l hl)⟩, ?_, fun l _ => hg _ (by simp), ?_⟩
  · rw [get_set_same]; exact M_pos
  · rw [get_set_same, destVal_congr fun l _ => hg _ (by simp), Nat.zero_mul, Nat.mul_zero 64, Nat.pow_zero,
      Nat.mod_one, Nat.mul_zero]

/-- `MulCellInv.val` one cell further, over plain numbers for `ring` and `omega`: from `val` before cell `(p0, p1)`
    (`hV`) and `mul_cell_arith` (`hsum`) to `val` before cell `(p0, p1 + 1)`: both prefixes have grown by limb
    `p0 + p1`, which holds `d'` after the cell and held `t` when the row was entered. -/
theorem mul_step_arith {DV D0 a b c c' d' t P0 P1 Bm Mx : Nat}
    (hsum : d' + c' * Mx = a * b + c + t)
    (hV : DV + c * (P0 * P1) = D0 + P0 * a * Bm) :
    DV + d' * (P0 * P1) + c' * (P0 * P1 * Mx) = D0 + t * (P0 * P1) + P0 * a * (Bm + P1 * b) := by
  have hs : d' * (P0 * P1) + c' * (P0 * P1 * Mx) = P0 * a * (P1 * b) + c * (P0 * P1) + t * (P0 * P1) :=
    calc _ = (d' + c' * Mx) * (P0 * P1) := by ring
      _ = (a * b + c + t) * (P0 * P1) := by rw [hsum]
      _ = _ := by ring
  rw [Nat.mul_add]
  omega

theorem mulCell_exec {σr σ : Env} {wa wb p0 p1 A B L : Nat} (hA : A < 2 ^ wa) (hB : B < 2 ^ wb)
    (hI : MulCellInv σr σ A B L p0 p1) (hp : p0 + p1 < L) :
    MulCellInv σr (execList σ (mulCell wa wb (wa + wb) p0 p1)) A B L p0 (p1 + 1) := by
  obtain ⟨hlo2, hhi', hsum⟩ := mul_cell_arith (limbOf_lt A p0) (limbOf_lt B p1) hI.carry_lt (hI.limbs_lt _ hp)
  -- every read of the store after the cell, in terms of the store before it
  have hget : ∀ x, (execList σ (mulCell wa wb (wa + wb) p0 p1)).get x = _ := fun x => by
    simp only [mulCell, execList, S.exec, E.eval, eval_mask, masked, maskCond_natural, argLimb_eval, get_set,
      reduceCtorEq, if_false, if_true, Bool.false_eq_true, read_argLimb hI.e0 hA p0,
      read_argLimb hI.e1 hB p1]
    rfl
  generalize execList σ (mulCell wa wb (wa + wb) p0 p1) = σ' at hget ⊢
  have hoth : ∀ l, l ≠ p0 + p1 → σ'.get (.dest l) = σ.get (.dest l) :=
    fun l hl => by rw [hget]; simp only [reduceCtorEq, if_false, Var.dest.injEq, if_neg hl]
  have hsum' : σ'.get (.dest (p0 + p1)) + σ'.get .carry * M
      = limbOf A p0 * limbOf B p1 + σ.get .carry + σ.get (.dest (p0 + p1)) := by
    rw [hget, hget]; simp only [reduceCtorEq, if_false, if_true]; exact hsum
  refine ⟨⟨fun l => ?_, fun l => ?_, fun l hl => ?_⟩, ?_, fun l hl => ?_, ?_⟩
  · rw [hget]; simp only [reduceCtorEq, if_false]; exact hI.e0 l
  · rw [hget]; simp only [reduceCtorEq, if_false]; exact hI.e1 l
  · rw [hget]; simp only [reduceCtorEq, if_false, Var.dest.injEq]
    split
    · exact hlo2
    · exact hI.limbs_lt l hl
  · rw [hget]; simp only [reduceCtorEq, if_false, if_true]; exact hhi'
  · rw [hoth l (Nat.ne_of_gt hl)]; exact hI.rest l (Nat.le_of_succ_le hl)
  · have hV := hI.val
    rw [Nat.mul_add 64, Nat.pow_add] at hV
    rw [show p0 + (p1 + 1) = p0 + p1 + 1 from rfl, destVal, destVal, destVal_congr fun l hl => hoth l (Nat.ne_of_lt hl),
      ← hI.rest _ le_rfl, pow_succ_limb, Nat.mul_add 64, Nat.pow_add, mod_succ_limb B p1]
    exact mul_step_arith hsum' hV

def mulRow (wa wb wd p0 : Nat) : List S :=
  [S.assign .carry (.lit 0)] ++
  (((List.range (limbs wb)).filter fun p1 => p0 + p1 < limbs wd).map (mulCell wa wb wd p0)).flatten ++
  (if limbs wd > p0 + limbs wb then
    [S.assign (.dest (p0 + limbs wb)) (mask wd (some (wa + wb)) (p0 + limbs wb) (.v .carry))]
   else [])

theorem emitMul_eq (wa wb wd : Nat) :
    emitMul wa wb wd = ((List.range (limbs wd)).map fun n => S.assign (.dest n) (.lit 0)) ++
      ((List.range (limbs wa)).map (mulRow wa wb wd)).flatten := rfl

/-- state at the start of row `p0`: the limbs the rows so far have reached hold `(A mod 2^(64 p0)) * B`; a limb
    beyond is written, by a row carry, before it is read -/
structure MulRowInv (σ : Env) (wa wb A B p0 : Nat) : Prop extends MulInv σ A B (limbs (wa + wb)) where
  val : destVal σ (min (p0 + limbs wb) (limbs (wa + wb))) = A % 2 ^ (64 * p0) * B

theorem mulRow_exec {σ : Env} {wa wb A B p0 : Nat} (hA : A < 2 ^ wa) (hB : B < 2 ^ wb) (hp0 : p0 < limbs wa)
    (hI : MulRowInv σ wa wb A B p0) :
    MulRowInv (execList σ (mulRow wa wb (wa + wb) p0)) wa wb A B (p0 + 1) := by
  have hfit : p0 + limbs wb ≤ limbs (wa + wb) := by have := limbs_add_le wa wb; omega
  have hJ := loop_inv (mulCell wa wb (wa + wb) p0) (fun p1 σ' => MulCellInv σ σ' A B (limbs (wa + wb)) p0 p1)
    (MulCellInv.start p0 hI.toMulInv) (limbs wb)
    fun p1 σ' hp1 h => mulCell_exec hA hB h (Nat.lt_of_lt_of_le (Nat.add_lt_add_left hp1 p0) hfit)
  have hIv := hI.val
  rw [Nat.min_eq_left hfit] at hIv
  have hV := hJ.val
  rw [hIv, Nat.mod_eq_of_lt (lt_pow_limbs hB le_rfl), ← Nat.add_mul, ← mod_succ_limb] at hV
  unfold mulRow
  rw [List.filter_eq_self.mpr (by intro x hx; simp only [List.mem_range] at hx; simp; omega)]
  simp only [execList_append, execList, S.exec, E.eval, Nat.zero_mod]
  generalize execList (σ.set .carry 0) _ = σ2 at *
  split
  · rename_i hst
    simp only [execList, S.exec, eval_mask, masked, maskCond_natural, Bool.false_eq_true, if_false, E.eval]
    refine ⟨⟨fun l => (get_set_ne (by simp)).trans (hJ.e0 l), fun l => (get_set_ne (by simp)).trans (hJ.e1 l),
      fun l hl => ?_⟩, ?_⟩
    · rw [get_set]
      split
      · exact hJ.carry_lt
      · exact hJ.limbs_lt l hl
    · rw [Nat.add_right_comm, Nat.min_eq_left hst, destVal, destVal_set_dest, get_set_same]
      exact hV
  · -- the row carry is dropped: it is zero, because the product fits
    rename_i hst
    have heq : limbs (wa + wb) = p0 + limbs wb := Nat.le_antisymm (Nat.not_lt.mp hst) hfit
    have hprod : A % 2 ^ (64 * (p0 + 1)) * B < 2 ^ (64 * (p0 + limbs wb)) :=
      calc A % 2 ^ (64 * (p0 + 1)) * B ≤ A * B := Nat.mul_le_mul_right _ (Nat.mod_le _ _)
        _ < _ := lt_pow_limbs (mul_lt_two_pow hA hB) heq.le
    have hc0 : σ2.get .carry = 0 := by
      by_contra hne
      have := Nat.le_mul_of_pos_left (2 ^ (64 * (p0 + limbs wb))) (Nat.pos_of_ne_zero hne)
      omega
    rw [hc0, Nat.zero_mul, Nat.add_zero] at hV
    exact ⟨hJ.toMulInv, by rw [Nat.add_right_comm, Nat.min_eq_right (Nat.le_succ_of_le heq.le), heq]; exact hV⟩

/-- `_build_mul` for a destination of the natural width `len(a) + len(b)` only, where no mask is ever applied. -/
theorem emitMul_correct {σ0 : Env} {wa wb A B : Nat} (hA : A < 2 ^ wa) (hB : B < 2 ^ wb)
    (h0 : Enc σ0 0 A) (h1 : Enc σ0 1 B) :
    destVal (execList σ0 (emitMul wa wb (wa + wb))) (limbs (wa + wb)) = A * B := by
  rw [emitMul_eq, execList_append]
  obtain ⟨hs, hz⟩ := assign_loop σ0 (limbs (wa + wb)) (fun _ => .lit 0) (fun _ => 0) (fun _ _ _ _ => rfl)
  have hI : MulRowInv _ wa wb A B 0 :=
    ⟨⟨Enc_of_same h0 hs, Enc_of_same h1 hs, fun l hl => by rw [hz l hl]; exact M_pos⟩, by
      rw [destVal_of_limbs 0 fun l hl => by
        rw [hz l (lt_of_lt_of_le hl (Nat.min_le_right _ _)), limbOf, Nat.zero_div, Nat.zero_mod]]
      rw [Nat.zero_mod, Nat.mul_zero, Nat.pow_zero, Nat.mod_one, Nat.zero_mul]⟩
  have h := (loop_inv _ (fun n σ => MulRowInv σ wa wb A B n) hI (limbs wa) fun n σ hn h =>
    mulRow_exec hA hB hn h).val
  rw [Nat.min_eq_right (limbs_le_add wa wb), Nat.mod_eq_of_lt (lt_pow_limbs hA le_rfl)] at h
  exact h

end Pyrtl.CLimb
