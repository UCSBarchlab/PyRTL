import Model.Lib.Adders
import Proofs.Lemmas.Synth
/-! `ripple_add` by its own recursion; `cla_adder` by showing that it returns, bit for bit, what the ripple
adder `Synth.addHelper` returns, so that `Synth.addHelper_spec` is the only arithmetic. -/
namespace Pyrtl.Adders
open Pyrtl.Synth

theorem rippleHalfAdd_spec (xs : List Bool) (c : Bool) :
    toNat (rippleHalfAdd xs c) = toNat xs + b2n c := by
  fun_induction rippleHalfAdd xs c with
  | case1 c => simp [toNat]
  | case2 x c => cases x <;> cases c <;> rfl
  | case3 x xs c hne ih =>
    simp only [toNat, ih]
    cases x <;> cases c <;> simp [b2n] <;> omega

theorem rippleAddL_spec (a b : List Bool) (c : Bool) (h : b.length ≤ a.length) :
    toNat (rippleAddL a b c) = toNat a + toNat b + b2n c := by
  fun_induction rippleAddL a b c with
  | case1 x y c =>
    have := oneBitAdd_spec x y c
    simp only [toNat]; omega
  | case2 x xs y c hne =>
    have := oneBitAdd_spec x y c
    simp only [toNat, rippleHalfAdd_spec]; omega
  | case3 x xs y ys c hne1 hne2 ih =>
    have := oneBitAdd_spec x y c
    have ih' := ih (by simpa using h)
    simp only [toNat, ih']; omega
  | case4 xs c => simp [rippleHalfAdd_spec, toNat]
  | case5 b c h1 =>
    obtain rfl : b = [] := List.eq_nil_of_length_eq_zero (by simpa using h)
    simp [toNat]

theorem addHelper_append (a₁ b₁ a₂ b₂ : List Bool) (c : Bool) (h : a₁.length = b₁.length) :
    addHelper (a₁ ++ a₂) (b₁ ++ b₂) c =
      ((addHelper a₁ b₁ c).1 ++ (addHelper a₂ b₂ (addHelper a₁ b₁ c).2).1,
        (addHelper a₂ b₂ (addHelper a₁ b₁ c).2).2) := by
  induction a₁, b₁, h using rec_eq_length generalizing c with
  | nil => rfl
  | cons x xs y ys hl ih => simp only [List.cons_append, addHelper, ih]

/-- the loop body of `_cla_adder_unit` -/
def claStep (st : List Bool × Bool × Bool × Bool) (gp : Bool × Bool) : List Bool × Bool × Bool × Bool :=
  (st.1 ++ [xor gp.2 st.2.1], gp.1 || (gp.2 && st.2.1), gp.1 || (gp.2 && st.2.2.1), st.2.2.2 && gp.2)

/-- the loop of `_cla_adder_unit` ripples like `addHelper`, and `cur_gen | cur_prop & cin` stays equal to
    its carry -/
theorem claFold_eq (cin : Bool) (xs ys sums : List Bool) (carry cg cp : Bool) (hc : (cg || (cp && cin)) = carry) :
    let r := ((List.zipWith (· && ·) xs ys).zip (List.zipWith xor xs ys)).foldl claStep (sums, carry, cg, cp)
    r.1 = sums ++ (addHelper xs ys carry).1 ∧ (r.2.2.1 || (r.2.2.2 && cin)) = (addHelper xs ys carry).2 := by
  induction xs generalizing ys sums carry cg cp with
  | nil => simp [addHelper, hc]
  | cons x xs ih =>
    cases ys with
    | nil => simp [addHelper, hc]
    | cons y ys =>
      have hcar := (oneBitAdd_carry x y carry).symm
      have hla : ((x && y || (xor x y && cg)) || ((cp && xor x y) && cin)) = (oneBitAdd x y carry).2 := by
        rw [← hcar, ← hc, Bool.and_or_distrib_left, ← Bool.or_assoc, Bool.and_comm cp, Bool.and_assoc]
      have := ih ys (sums ++ [xor (xor x y) carry]) _ _ _ hla
      simpa only [List.zipWith_cons_cons, List.zip_cons_cons, List.foldl_cons, claStep, hcar, addHelper,
        List.append_assoc, List.singleton_append, oneBitAdd] using this

theorem claUnit_eq (a b : List Bool) (cin : Bool) : claUnit a b cin = addHelper a b cin := by
  cases a with
  | nil => rfl
  | cons x xs =>
    cases b with
    | nil => rfl
    | cons y ys =>
      -- the state before the loop is `claStep ([], cin, false, true)` of the first position
      obtain ⟨h1, h2⟩ := claFold_eq cin (x :: xs) (y :: ys) [] cin false true rfl
      simp only [List.zipWith_cons_cons, List.zip_cons_cons, List.foldl_cons, claStep, Bool.and_false,
        Bool.or_false, Bool.true_and, List.nil_append] at h1 h2
      exact Prod.ext h1 h2

theorem claUnit_nil (c : Bool) : claUnit [] [] c = ([], c) := rfl

theorem claLoop_eq {ul fuel : Nat} {a b : List Bool} {c : Bool} (hul : 0 < ul) (hl : a.length = b.length)
    (hf : a.length < fuel) : claLoop fuel ul a b c = (addHelper a b c).1 ++ [(addHelper a b c).2] := by
  induction fuel generalizing a b c with
  | zero => omega
  | succ fuel ih =>
    simp only [claLoop, claUnit_eq]
    split
    · rfl
    · rw [ih (by simp [hl]) (by rw [List.length_drop]; omega)]
      have := addHelper_append (a.take ul) (b.take ul) (a.drop ul) (b.drop ul) c (by simp [hl])
      rw [List.take_append_drop, List.take_append_drop] at this
      rw [this, List.append_assoc]

theorem zext_length (l : List Bool) (n : Nat) (h : l.length ≤ n) : (zext l n).length = n := by
  rw [zext, List.length_append, List.length_replicate, Nat.add_sub_cancel' h]

theorem toNat_replicate_false (k : Nat) : toNat (List.replicate k false) = 0 := by
  induction k with
  | zero => rfl
  | succ k ih => simp [List.replicate_succ, toNat, ih, b2n]

theorem toNat_zext (l : List Bool) (n : Nat) : toNat (zext l n) = toNat l := by
  simp [zext, toNat_append, toNat_replicate_false]

/-- what `cla_adder` and `kogge_stone` return, bit for bit -/
def rippleRef (a b : List Bool) (cin : Bool) : List Bool :=
  let n := max a.length b.length
  let r := addHelper (zext a n) (zext b n) cin
  r.1 ++ [r.2]

theorem zext_max_length (a b : List Bool) :
    (zext a (max a.length b.length)).length = max a.length b.length ∧
      (zext b (max a.length b.length)).length = max a.length b.length :=
  ⟨zext_length a _ (Nat.le_max_left _ _), zext_length b _ (Nat.le_max_right _ _)⟩

theorem rippleRef_val (a b : List Bool) (cin : Bool) :
    toNat (rippleRef a b cin) = toNat a + toNat b + b2n cin := by
  obtain ⟨ha, hb⟩ := zext_max_length a b
  rw [rippleRef, toNat_addHelper _ _ _ (ha.trans hb.symm), toNat_zext, toNat_zext]

theorem claAdder_eq (a b : List Bool) (cin : Bool) (ul : Nat) (hul : 0 < ul) :
    claAdder a b cin ul = rippleRef a b cin := by
  obtain ⟨ha, hb⟩ := zext_max_length a b
  exact claLoop_eq hul (ha.trans hb.symm) (by rw [ha]; omega)

end Pyrtl.Adders
