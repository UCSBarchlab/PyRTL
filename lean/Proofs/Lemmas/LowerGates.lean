import Proofs.Lemmas.LowerNet
/-!
# The gate-basis rules (`nand_synth`, `and_inverter_synth`) are sound on whole netlists

Every temporary of a gadget has the width of the first operand, which is not below the destination's (`BitPre`).  The body
leaves in the last temporary the replaced primitive at that width (`bitwise_gadget`; the nested complements are compared
with the primitive bit by bit, `gate_*`), and truncating it is the primitive at the destination's width (`wide_then_w`).
-/
namespace Pyrtl.LowerNet

/-- `sanity_check_net` rejects a bitwise net whose destination is wider than its first operand ("upper bits of
    destination unassigned") -/
def BitPre (b : Block) (n : Net) : Prop :=
  ∀ a c, n.args = [a, c] → (n.op = .and ∨ n.op = .or ∨ n.op = .xor ∨ n.op = .nand) → b.width n.dest ≤ b.width a

theorem wfB_bit {b : Block} (h : wfB bitPreB b = true) : WF BitPre b :=
  wfB_sound (fun n h3 a c hargs hop => by
    rcases hop with hop | hop | hop | hop <;> simpa [bitPreB, hargs, hop] using h3) h

theorem inv_lt (w x : Nat) : 2 ^ w - 1 - x % 2 ^ w < 2 ^ w := by
  have := Nat.two_pow_pos w
  omega

/-- `~(a nand c)` -/
theorem gate_and (w x y : Nat) :
    2 ^ w - 1 - (2 ^ w - 1 - (x &&& y) % 2 ^ w) % 2 ^ w = (x &&& y) % 2 ^ w := by
  apply Nat.eq_of_testBit_eq
  intro i
  simp only [compl_testBit, Nat.testBit_mod_two_pow, Nat.testBit_and]
  cases decide (i < w) <;> cases x.testBit i <;> cases y.testBit i <;> rfl

/-- `(~a) nand (~c)` -/
theorem gate_or_nand (w x y : Nat) :
    2 ^ w - 1 - ((2 ^ w - 1 - x % 2 ^ w) &&& (2 ^ w - 1 - y % 2 ^ w)) % 2 ^ w = (x ||| y) % 2 ^ w := by
  apply Nat.eq_of_testBit_eq
  intro i
  simp only [compl_testBit, Nat.testBit_mod_two_pow, Nat.testBit_and, Nat.testBit_or]
  cases decide (i < w) <;> cases x.testBit i <;> cases y.testBit i <;> rfl

/-- `(t nand a) nand (t nand c)` with `t = a nand c` -/
theorem gate_xor_nand (w x y : Nat) :
    2 ^ w - 1 - ((2 ^ w - 1 - ((2 ^ w - 1 - (x &&& y) % 2 ^ w) &&& x) % 2 ^ w) &&&
                 (2 ^ w - 1 - ((2 ^ w - 1 - (x &&& y) % 2 ^ w) &&& y) % 2 ^ w)) % 2 ^ w
      = (x ^^^ y) % 2 ^ w := by
  apply Nat.eq_of_testBit_eq
  intro i
  simp only [compl_testBit, Nat.testBit_mod_two_pow, Nat.testBit_and, Nat.testBit_xor]
  cases decide (i < w) <;> cases x.testBit i <;> cases y.testBit i <;> rfl

/-- `~(~a & ~c)` -/
theorem gate_or_aig (w x y : Nat) :
    2 ^ w - 1 - (((2 ^ w - 1 - x % 2 ^ w) &&& (2 ^ w - 1 - y % 2 ^ w)) % 2 ^ w) % 2 ^ w = (x ||| y) % 2 ^ w := by
  rw [Nat.mod_mod, gate_or_nand]

/-- `~(~a & ~c) & ~(a & c)` -/
theorem gate_xor_aig (w x y : Nat) :
    ((2 ^ w - 1 - (((2 ^ w - 1 - x % 2 ^ w) &&& (2 ^ w - 1 - y % 2 ^ w)) % 2 ^ w) % 2 ^ w) &&&
     (2 ^ w - 1 - ((x &&& y) % 2 ^ w) % 2 ^ w)) % 2 ^ w = (x ^^^ y) % 2 ^ w := by
  apply Nat.eq_of_testBit_eq
  intro i
  simp only [compl_testBit, Nat.testBit_mod_two_pow, Nat.testBit_and, Nat.testBit_xor]
  cases decide (i < w) <;> cases x.testBit i <;> cases y.testBit i <;> rfl

/-- `~(a & c)` -/
theorem gate_nand_aig (w x y : Nat) :
    2 ^ w - 1 - ((x &&& y) % 2 ^ w) % 2 ^ w = 2 ^ w - 1 - (x &&& y) % 2 ^ w := by
  rw [Nat.mod_mod]

theorem nand_shape : RuleShape nandRule := by
  intro b n g t hg
  unfold nandRule at hg
  split at hg
  · rename_i hargs
    cases hg
    exact gadgetShape_wNet 1 [_, _] rfl (by simp [bodyOk, hargs, Op.isComb])
  · rename_i hargs
    cases hg
    exact gadgetShape_wNet 2 [_, _, _] rfl (by simp [bodyOk, hargs, Op.isComb])
  · rename_i hargs
    cases hg
    exact gadgetShape_wNet 3 [_, _, _, _] rfl (by simp [bodyOk, hargs, Op.isComb])
  · cases hg

theorem aig_shape : RuleShape aigRule := by
  intro b n g t hg
  unfold aigRule at hg
  split at hg
  · rename_i hargs
    cases hg
    exact gadgetShape_wNet 3 [_, _, _, _] rfl (by simp [bodyOk, hargs, Op.isComb])
  · rename_i hargs
    cases hg
    exact gadgetShape_wNet 6 [_, _, _, _, _, _, _] rfl (by simp [bodyOk, hargs, Op.isComb])
  · rename_i hargs
    cases hg
    exact gadgetShape_wNet 1 [_, _] rfl (by simp [bodyOk, hargs, Op.isComb])
  · cases hg

theorem nandRule_comb (b : Block) (n : Net) (g : Gadget) (h : nandRule b n = some g) : n.op.isComb = true := by
  unfold nandRule at h
  split at h <;> simp_all only [Op.isComb, reduceCtorEq]

theorem aigRule_comb (b : Block) (n : Net) (g : Gadget) (h : aigRule b n = some g) : n.op.isComb = true := by
  unfold aigRule at h
  split at h <;> simp_all only [Op.isComb, reduceCtorEq]

theorem nandRule_ops {b : Block} {n : Net} {g : Gadget} {t : Nat} (h : nandRule b n = some g) :
    ∀ m ∈ g.nets t, m.op = .nand ∨ m.op = .inv ∨ m.op = .w := by
  unfold nandRule at h
  split at h <;> cases h
  all_goals
    simp only [wNet, List.forall_mem_cons]
    decide

theorem aigRule_ops {b : Block} {n : Net} {g : Gadget} {t : Nat} (h : aigRule b n = some g) :
    ∀ m ∈ g.nets t, m.op = .and ∨ m.op = .inv ∨ m.op = .w := by
  unfold aigRule at h
  split at h <;> cases h
  all_goals
    simp only [wNet, List.forall_mem_cons]
    decide

/-- The frame the six gate gadgets share.  `hval` gets the width of `t` separately because the first body net writes
    `t`, not `t + 0`; `hw` speaks of `List.replicate (k + 1) _` so that it unifies with the literal `g.tmps` of each
    rule. -/
theorem bitwise_gadget {b b' : Block} {n : Net} {st : State} {e' : Env} {t a c : Nat} (k : Nat) (body : List Net)
    (hext : Extends b b') (hold : NetOld b n) (hpre : BitPre b n) (ht : b.wires.size ≤ t)
    (hw : (List.range' t (k + 1)).map b'.width = List.replicate (k + 1) (b.width a))
    (hargs : n.args = [a, c]) (hop : n.op = .and ∨ n.op = .or ∨ n.op = .xor ∨ n.op = .nand)
    (hval : b'.width t = b.width a → (∀ j, j ≤ k → b'.width (t + j) = b.width a) → a < t → c < t →
      evalSeq (netFun b' st) body e' (t + k) = Spec.comb n.op [(b.width a, e' a), (b.width c, e' c)] (b.width a)) :
    evalSeq (netFun b' st) (body ++ [wNet (t + k) n.dest]) e' n.dest = netFun b st n (n.args.map e') := by
  have hlt : ∀ x ∈ n.args, x < t := fun x hx => Nat.lt_of_lt_of_le (hold.1 x hx) ht
  have hwt : ∀ j, j ≤ k → b'.width (t + j) = b.width a := fun j hj =>
    List.eq_of_mem_replicate (hw ▸ List.mem_map_of_mem (List.mem_range'_1.mpr (by omega)))
  refine wide_then_w body (b.width a) hext hold (fun m h => ?_) (hpre a c hargs hop) ?_
  · rcases hop with h' | h' | h' | h' <;> cases h'.symm.trans h
  · rw [hargs]
    exact hval (hwt 0 (Nat.zero_le _)) hwt (hlt a (by simp [hargs])) (hlt c (by simp [hargs]))

theorem nand_sound : RuleSound nandRule BitPre :=
  ruleSound_of_shape nand_shape nandRule_comb
    (fun b b' n g t st e' hg hext hold hpre ht hw => by
      unfold nandRule at hg
      split at hg
      · rename_i a c hop hargs
        cases hg
        refine bitwise_gadget 1 [_, _] hext hold hpre ht hw hargs (.inl hop) fun hw0 hwt ha hc => ?_
        simp (disch := omega) only [evalSeq, Net.dest, List.headD_cons, netFun, List.map_cons, List.map_nil,
          List.zip_cons_cons, List.zip_nil_right, Spec.comb, upd_eq, hop, hw0, hwt]
        exact gate_and _ _ _
      · rename_i a c hop hargs
        cases hg
        refine bitwise_gadget 2 [_, _, _] hext hold hpre ht hw hargs (.inr (.inl hop)) fun hw0 hwt ha hc => ?_
        simp (disch := omega) only [evalSeq, Net.dest, List.headD_cons, netFun, List.map_cons, List.map_nil,
          List.zip_cons_cons, List.zip_nil_right, Spec.comb, upd_eq, upd_ne, hop, hw0, hwt]
        exact gate_or_nand _ _ _
      · rename_i a c hop hargs
        cases hg
        refine bitwise_gadget 3 [_, _, _, _] hext hold hpre ht hw hargs (.inr (.inr (.inl hop))) fun hw0 hwt ha hc => ?_
        simp (disch := omega) only [evalSeq, Net.dest, List.headD_cons, netFun, List.map_cons, List.map_nil,
          List.zip_cons_cons, List.zip_nil_right, Spec.comb, upd_eq, upd_ne, hop, hw0, hwt]
        exact gate_xor_nand _ _ _
      · cases hg)

theorem aig_sound : RuleSound aigRule BitPre :=
  ruleSound_of_shape aig_shape aigRule_comb
    (fun b b' n g t st e' hg hext hold hpre ht hw => by
      unfold aigRule at hg
      split at hg
      · rename_i a c hop hargs
        cases hg
        refine bitwise_gadget 3 [_, _, _, _] hext hold hpre ht hw hargs (.inr (.inl hop)) fun hw0 hwt ha hc => ?_
        simp (disch := omega) only [evalSeq, Net.dest, List.headD_cons, netFun, List.map_cons, List.map_nil,
          List.zip_cons_cons, List.zip_nil_right, Spec.comb, upd_eq, upd_ne, hop, hw0, hwt]
        exact gate_or_aig _ _ _
      · rename_i a c hop hargs
        cases hg
        refine bitwise_gadget 6 [_, _, _, _, _, _, _] hext hold hpre ht hw hargs (.inr (.inr (.inl hop)))
          fun hw0 hwt ha hc => ?_
        simp (disch := omega) only [evalSeq, Net.dest, List.headD_cons, netFun, List.map_cons, List.map_nil,
          List.zip_cons_cons, List.zip_nil_right, Spec.comb, upd_eq, upd_ne, hop, hw0, hwt]
        exact gate_xor_aig _ _ _
      · rename_i a c hop hargs
        cases hg
        refine bitwise_gadget 1 [_, _] hext hold hpre ht hw hargs (.inr (.inr (.inr hop))) fun hw0 hwt ha hc => ?_
        simp (disch := omega) only [evalSeq, Net.dest, List.headD_cons, netFun, List.map_cons, List.map_nil,
          List.zip_cons_cons, List.zip_nil_right, Spec.comb, upd_eq, hop, hw0, hwt]
        exact gate_nand_aig _ _ _
      · cases hg)

end Pyrtl.LowerNet
