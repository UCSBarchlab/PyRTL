import Proofs.Lemmas.LowerGates
import Mathlib.Tactic.Ring
/-!
# `two_way_concat` and `one_bit_selects` are sound on whole netlists

The chain of two-operand concats holds, link after link, the n-operand concat modulo the running width, whatever the
operand values (`chain_eq`).  The concat of the one-bit selects of `a` is the select of `a` (`concatVal_bits`).
-/
namespace Pyrtl.LowerNet

/-- `sanity_check_net` rejects a wider destination: "upper bits of concat output undefined", "upper bits of select
    output undefined" -/
def StructPre (b : Block) (n : Net) : Prop :=
  (n.op = .concat → b.width n.dest ≤ (n.args.map b.width).sum) ∧
  (∀ idx, n.op = .select idx → b.width n.dest ≤ idx.length)

theorem wfB_struct {b : Block} (h : wfB structPreB b = true) : WF StructPre b :=
  wfB_sound (fun n h3 =>
    ⟨fun hop => by simpa [structPreB, hop] using h3, fun idx hop => by simpa [structPreB, hop] using h3⟩) h

/-- the step of `Lower.twoWay` -/
def catStep (acc q : Nat × Nat) : Nat × Nat := (acc.1 + q.1, Spec.comb .concat [acc, q] (acc.1 + q.1))

theorem chain_eq {l : List (Nat × Nat)} {acc : Nat × Nat} (y : Nat) (h : acc.2 = y % 2 ^ acc.1) :
    l.foldl catStep acc
      = (acc.1 + (l.map (·.1)).sum, Spec.concatVal l y % 2 ^ (acc.1 + (l.map (·.1)).sum)) := by
  induction l generalizing acc y with
  | nil => simp only [List.foldl_nil, List.map_nil, List.sum_nil, Nat.add_zero, Spec.concatVal, ← h]
  | cons q rest ih =>
    have hstep : (catStep acc q).2 = (y * 2 ^ q.1 + q.2) % 2 ^ (catStep acc q).1 := by
      simp only [catStep, Spec.comb, Spec.concatVal, Nat.zero_mul, Nat.zero_add, h]
      rw [Nat.pow_add, ← Nat.mul_mod_mul_right, Nat.mod_add_mod]
    rw [List.foldl_cons, ih _ hstep]
    simp only [catStep, List.map_cons, List.sum_cons, Spec.concatVal, Nat.add_assoc]

/-- the widths are part of the equation so that `chain_eq` applies -/
theorem chain_eval {b b' : Block} (st : State) {t : Nat} (hext : Extends b b') (ht : b.wires.size ≤ t)
    {rest : List Nat} (k : Nat) (e e0 : Env)
    (hold : ∀ a ∈ rest, a < b.wires.size) (hag : ∀ a, a < b.wires.size → e a = e0 a)
    (hw : (List.range' (t + k + 1) rest.length).map b'.width = catWidths b rest (b'.width (t + k))) :
    (b'.width (t + k + rest.length), evalSeq (netFun b' st) (catChain t rest k) e (t + k + rest.length))
      = (rest.map (fun a => (b.width a, e0 a))).foldl catStep (b'.width (t + k), e (t + k)) := by
  induction rest generalizing k e with
  | nil => rfl
  | cons a rest ih =>
    obtain ⟨ha, hold⟩ := List.forall_mem_cons.mp hold
    rw [List.length_cons, List.range'_succ, List.map_cons, catWidths, List.cons.injEq] at hw
    have hag' : ∀ v x, x < b.wires.size → upd e (t + k + 1) v x = e0 x := fun v x hx =>
      (upd_ne (by omega)).trans (hag x hx)
    rw [List.length_cons, show t + k + (rest.length + 1) = t + (k + 1) + rest.length by omega, catChain, evalSeq]
    refine (ih (k + 1) _ hold (hag' _) (hw.1 ▸ hw.2)).trans ?_
    simp only [← Nat.add_assoc, upd_eq, List.map_cons, List.foldl_cons]
    congr 1
    simp only [catStep, netFun, Net.dest, List.headD_cons, List.map_cons, List.map_nil, List.zip_cons_cons,
      List.zip_nil_right, hw.1, hext.width ha, hag a ha]

theorem catWidths_length (b : Block) (l : List Nat) (acc : Nat) : (catWidths b l acc).length = l.length := by
  induction l generalizing acc with
  | nil => rfl
  | cons a rest ih => simp [catWidths, ih]

theorem catChain_length (t : Nat) (l : List Nat) (j : Nat) : (catChain t l j).length = l.length := by
  induction l generalizing j with
  | nil => rfl
  | cons a rest ih => simp [catChain, ih]

theorem catChain_mem {t : Nat} {rest : List Nat} {k : Nat} :
    ∀ m ∈ catChain t rest k, m.op = .concat ∧ m.args.length = 2 := by
  induction rest generalizing k with
  | nil => exact fun _ h => (nomatch h)
  | cons a rest ih => exact List.forall_mem_cons.mpr ⟨⟨rfl, rfl⟩, ih⟩

theorem chain_bodyOk {nargs : List Nat} (t : Nat) {l : List Nat} (j : Nat) (h : ∀ a ∈ l, a ∈ nargs) :
    bodyOk nargs t (catChain t l j) (j + 1) = true := by
  induction l generalizing j with
  | nil => rfl
  | cons a rest ih =>
    obtain ⟨ha, h⟩ := List.forall_mem_cons.mp h
    exact bodyOk_cons.mpr ⟨by rw [Nat.add_assoc], rfl,
      List.forall_mem_cons.mpr ⟨.inr ⟨by omega, by omega⟩, List.forall_mem_singleton.mpr (.inl ha)⟩, ih (j + 1) h⟩

theorem twoWay_shape : RuleShape twoWayRule := by
  intro b n g t hg
  unfold twoWayRule at hg
  split at hg
  · rename_i a0 a1 a2 rest hop hargs
    cases hg
    have hmem : ∀ x, x ∈ [a0, a1] ∨ x ∈ a2 :: rest → x ∈ n.args := fun x hx => by
      rw [hargs]
      exact List.mem_append.mpr hx
    dsimp only
    rw [List.length_cons, catWidths_length]
    exact gadgetShape_wNet _ (_ :: catChain t (a2 :: rest) 0) (by simp [catChain_length])
      (bodyOk_cons.mpr ⟨rfl, rfl, fun x hx => Or.inl (hmem x (.inl hx)),
        chain_bodyOk t 0 fun x hx => hmem x (.inr hx)⟩)
  · cases hg

theorem twoWayRule_comb (b : Block) (n : Net) (g : Gadget) (h : twoWayRule b n = some g) : n.op.isComb = true := by
  unfold twoWayRule at h
  split at h <;> simp_all only [Op.isComb, reduceCtorEq]

theorem twoWayRule_ops {b : Block} {n : Net} {g : Gadget} {t : Nat} (h : twoWayRule b n = some g) :
    ∀ m ∈ g.nets t, (m.op = .concat ∧ m.args.length = 2) ∨ m.op = .w := by
  unfold twoWayRule at h
  split at h
  · cases h
    exact List.forall_mem_append.mpr
      ⟨List.forall_mem_cons.mpr ⟨.inl ⟨rfl, rfl⟩, fun m hm => .inl (catChain_mem m hm)⟩,
        List.forall_mem_singleton.mpr (.inr rfl)⟩
  · cases h

theorem twoWay_sound : RuleSound twoWayRule StructPre :=
  ruleSound_of_shape twoWay_shape twoWayRule_comb
    (fun b b' n g t st e' hg hext hold hpre ht hw => by
      unfold twoWayRule at hg
      split at hg
      · rename_i a0 a1 a2 rest hop hargs
        cases hg
        obtain ⟨h0, hlt⟩ := List.forall_mem_cons.mp (hargs ▸ hold.1)
        obtain ⟨h1, hrest⟩ := List.forall_mem_cons.mp hlt
        rw [List.length_cons, List.range'_succ, List.map_cons, List.cons.injEq, catWidths_length] at hw
        let v0 := netFun b' st ⟨.concat, [a0, a1], [t]⟩ (List.map e' [a0, a1])
        have hv0 : (b'.width t, v0) = catStep (b.width a0, e' a0) (b.width a1, e' a1) := by
          simp only [v0, catStep, netFun, Net.dest, List.headD_cons, List.map_cons, List.map_nil,
            List.zip_cons_cons, List.zip_nil_right, hw.1, hext.width h0, hext.width h1]
        have c2 := chain_eval st hext ht 0 (upd e' t v0) e' hrest (fun x hx => upd_ne (by omega)) (hw.1 ▸ hw.2)
        rw [Nat.add_zero, upd_eq, hv0, chain_eq (e' a0 * 2 ^ b.width a1 + e' a1) (by
          simp [catStep, Spec.comb, Spec.concatVal])] at c2
        refine wide_then_w _ (n.args.map b.width).sum hext hold (by simp [hop]) (hpre.1 hop) ?_
        refine (congrArg Prod.snd c2).trans ?_
        simp only [hop, hargs, Spec.comb, Spec.concatVal, catStep, List.map_cons, List.sum_cons,
          List.zip_cons_cons, List.map_map, Function.comp_def, List.zip_map', Nat.zero_mul, Nat.zero_add,
          Nat.add_assoc]
      · cases hg)

theorem bitTmps_eq (t : Nat) (idx : List Nat) (k : Nat) : bitTmps t idx k = List.range' (t + k) idx.length := by
  induction idx generalizing k with
  | nil => rfl
  | cons i rest ih => exact congrArg _ (ih (k + 1))

theorem bitNets_mem {t a : Nat} {idx : List Nat} {k : Nat} : ∀ m ∈ bitNets t a idx k, ∃ i, m.op = .select [i] := by
  induction idx generalizing k with
  | nil => exact fun _ h => (nomatch h)
  | cons i rest ih => exact List.forall_mem_cons.mpr ⟨⟨i, rfl⟩, ih⟩

theorem bitNets_length (t a : Nat) (idx : List Nat) (j : Nat) : (bitNets t a idx j).length = idx.length := by
  induction idx generalizing j with
  | nil => rfl
  | cons i rest ih => simp [bitNets, ih]

theorem bitNets_bodyOk (nargs : List Nat) (t a : Nat) (ha : a ∈ nargs) (idx : List Nat) (j : Nat) :
    bodyOk nargs t (bitNets t a idx j) j = true := by
  induction idx generalizing j with
  | nil => rfl
  | cons i rest ih =>
    exact bodyOk_cons.mpr ⟨rfl, rfl, fun x hx => Or.inl (List.mem_singleton.mp hx ▸ ha), ih (j + 1)⟩

theorem oneBit_shape : RuleShape oneBitRule := by
  intro b n g t hg
  unfold oneBitRule at hg
  split at hg
  · rename_i i a hop hargs
    cases hg
    exact gadgetShape_wNet 0 [_] rfl (bitNets_bodyOk n.args t a (by simp [hargs]) [i] 0)
  · rename_i i j idx a hop hargs
    cases hg
    dsimp only
    rw [List.length_append, List.length_replicate, List.append_cons (bitNets ..)]
    refine gadgetShape_wNet _ _ (by simp [bitNets_length]) ?_
    rw [bodyOk_append, bitNets_bodyOk n.args t a (by simp [hargs]), Bool.true_and, bitNets_length]
    refine bodyOk_cons.mpr ⟨by simp, rfl, fun x hx => Or.inr ?_, rfl⟩
    simpa only [Nat.add_zero, Nat.zero_add] using List.mem_range'_1.mp (bitTmps_eq t _ 0 ▸ List.mem_reverse.mp hx)
  · cases hg

theorem oneBitRule_comb (b : Block) (n : Net) (g : Gadget) (h : oneBitRule b n = some g) : n.op.isComb = true := by
  unfold oneBitRule at h
  split at h <;> simp_all only [Op.isComb, reduceCtorEq]

theorem oneBitRule_ops {b : Block} {n : Net} {g : Gadget} {t : Nat} (h : oneBitRule b n = some g) :
    ∀ m ∈ g.nets t, (∃ i, m.op = .select [i]) ∨ m.op = .concat ∨ m.op = .w := by
  unfold oneBitRule at h
  split at h
  · cases h
    simp [wNet]
  · cases h
    exact List.forall_mem_append.mpr
      ⟨fun m hm => .inl (bitNets_mem m hm),
        List.forall_mem_cons.mpr ⟨.inr (.inl rfl), List.forall_mem_singleton.mpr (.inr (.inr rfl))⟩⟩
  · cases h

/-- the value of a one-bit select net; the operand width plays no role, hence `0` -/
def selBit (i v : Nat) : Nat := Spec.comb (.select [i]) [(0, v)] 1

theorem bits_eval (b' : Block) (st : State) (t a : Nat) (hat : a < t) {idx : List Nat} (k : Nat) (e : Env)
    (hw : (bitTmps t idx k).map b'.width = List.replicate idx.length 1) :
    (bitTmps t idx k).map (fun x => (b'.width x, evalSeq (netFun b' st) (bitNets t a idx k) e x))
      = idx.map (fun i => (1, selBit i (e a))) := by
  induction idx generalizing k e with
  | nil => rfl
  | cons i rest ih =>
    rw [bitTmps, List.map_cons, List.length_cons, List.replicate_succ, List.cons.injEq] at hw
    have hoff : ∀ e' : Env, evalSeq (netFun b' st) (bitNets t a rest (k + 1)) e' (t + k) = e' (t + k) := fun e' =>
      evalSeq_off _ _ fun m hm h => by
        have := ((bodyOk_spec (bitNets_bodyOk [a] t a (by simp) rest (k + 1))).2 m.dest).mp
          (List.mem_map_of_mem hm)
        omega
    simp only [bitNets, bitTmps, evalSeq, Net.dest, List.headD_cons, List.map_cons, List.map_nil]
    rw [ih (k + 1) _ hw.2, hoff, upd_eq, upd_ne (Nat.ne_of_lt (Nat.lt_add_right k hat))]
    congr 1
    simp [netFun, Net.dest, selBit, Spec.comb, hw.1]

theorem selectVal_single (i a : Nat) : Spec.selectVal [i] a % 2 ^ 1 = Spec.bit a i := by
  simp only [Spec.selectVal, Spec.bit, Nat.mul_zero, Nat.add_zero, Nat.pow_one, Nat.mod_mod]

theorem concatVal_bits (idx : List Nat) (a acc : Nat) :
    Spec.concatVal (idx.map fun i => (1, Spec.bit a i)) acc
      = acc * 2 ^ idx.length + Spec.selectVal idx.reverse a := by
  induction idx generalizing acc with
  | nil => simp [Spec.concatVal, Spec.selectVal]
  | cons i rest ih =>
    simp only [List.map_cons, Spec.concatVal, ih, List.length_cons, List.reverse_cons, Spec.selectVal_append,
      List.length_reverse, Spec.selectVal]
    ring

theorem concat_selBits (idx : List Nat) (a : Nat) :
    Spec.comb .concat (idx.reverse.map fun i => (1, selBit i a)) idx.length
      = Spec.selectVal idx a % 2 ^ idx.length := by
  simp only [Spec.comb, selBit, selectVal_single]
  rw [concatVal_bits idx.reverse a 0, List.reverse_reverse, Nat.zero_mul, Nat.zero_add]

theorem oneBit_sound : RuleSound oneBitRule StructPre :=
  ruleSound_of_shape oneBit_shape oneBitRule_comb
    (fun b b' n g t st e' hg hext hold hpre ht hw => by
      unfold oneBitRule at hg
      split at hg
      · rename_i i a hop hargs
        cases hg
        have hw0 : b'.width t = 1 := (List.cons.inj hw).1
        refine wide_then_w [_] 1 hext hold (by simp [hop]) (hpre.2 [i] hop) ?_
        simp only [evalSeq, Net.dest, List.headD_cons, netFun, List.map_cons, List.map_nil, List.zip_cons_cons,
          List.zip_nil_right, Spec.comb, upd_eq, hop, hargs, hw0]
      · rename_i i j idx a hop hargs
        cases hg
        have ha : a < b.wires.size := hold.1 a (by simp [hargs])
        rw [List.length_append, List.length_replicate, List.length_singleton, List.range'_concat, List.map_append,
          Nat.one_mul] at hw
        obtain ⟨hw1, hwm⟩ := List.append_inj' hw rfl
        dsimp only
        rw [List.append_cons (bitNets ..)]
        refine wide_then_w _ (idx.length + 2) hext hold (by simp [hop]) (hpre.2 _ hop) ?_
        -- the concat net reads the temporaries, most significant first
        rw [evalSeq_append]
        simp only [evalSeq, netFun, Net.dest, List.headD_cons, upd_eq, (List.cons.inj hwm).1, List.zip_map']
        rw [List.map_reverse, bits_eval b' st t a (Nat.lt_of_lt_of_le ha ht) 0 e' (bitTmps_eq t _ 0 ▸ hw1),
          ← List.map_reverse, hop, hargs]
        exact concat_selBits (i :: j :: idx) (e' a)
      · cases hg)

end Pyrtl.LowerNet
