import Proofs.Lemmas.RunRefine
import Model.Sim.FastRun
/-!
# Run-level refinement for any simulator with `Simulation.step`'s skeleton

If the per-net function agrees with the documented one on in-range arguments (for the nets of the
schedule), one cycle and whole runs agree with the specification.  `Simulation` (C01) and `FastSimulation` (C02)
are the two instances.
-/
namespace Pyrtl.FastRun
open Pyrtl.PySim Pyrtl.RunRefine Pyrtl.C01 Pyrtl.FastSim

def NfOk (b : Block) (order : List Net) (nf : State → Net → List Nat → Nat) : Prop :=
  ∀ (st : State), ∀ n ∈ order, ∀ vals : List Nat, vals.length = n.args.length →
    (∀ p ∈ (n.args.map b.width).zip vals, p.2 < 2 ^ p.1) → nf st n vals = Pyrtl.netFun b st n vals

theorem stepWith_eq_spec (b : Block) (order : List Net) (nf : State → Net → List Nat → Nat) (hnf : NfOk b order nf)
    (hwf : WF b order) (s : Sim) (st : State) (hinv : Inv b s st) (inp : Env) (hin : InputsOk b inp) :
    (∀ w, Good b order w →
        (stepWith nf b order (writeNets b) s inp).1 w = (Pyrtl.step b order st inp).1 w ∧
        (Pyrtl.step b order st inp).1 w < 2 ^ b.width w) ∧
    Inv b (stepWith nf b order (writeNets b) s inp).2 (Pyrtl.step b order st inp).2 := by
  have hgood : ∀ w, Good b order w → (stepWith nf b order (writeNets b) s inp).1 w = (Pyrtl.step b order st inp).1 w :=
    fun w hw => evalSeq_agree b (nf ⟨s.regvalue, s.mem⟩) st
      (fun n hn vals hl h => (hnf _ n hn vals hl h).trans (spec_netFun_congr b _ st hinv.mems n vals))
      hwf.sched (baseEnv_lt hwf.consts hinv.regs_lt hin)
      (fun w hw => base_agree hinv inp (hw.resolve_left List.not_mem_nil)) w (.inr hw)
  refine ⟨fun w hw => ⟨hgood w hw, spec_step_lt order hwf.consts hinv.regs_lt hin w⟩, ?_, ?_, ?_, ?_⟩
  · intro r
    simp only [stepWith, Pyrtl.step, regCapture, nextRegs]
    cases hrn : regNetOf b r with
    | none => exact hinv.regs r
    | some n =>
      obtain ⟨hmem, hop, _⟩ := regNetOf_some hrn
      simp only [san_nat]
      exact congrArg (· % _) (hgood _ (hwf.regArg n hmem hop))
  · intro r hr
    simp only [Pyrtl.step, nextRegs]
    cases hrn : regNetOf b r with
    | none => exact hinv.regs_lt r hr
    | some n => exact Nat.mod_lt _ (Nat.two_pow_pos _)
  · simp only [stepWith, Pyrtl.step]
    rw [← hinv.mems]
    exact writes_congr fun n hn a ha => hgood a (hwf.wrArgs n hn a ha)
  · intro c v hk
    have hsrc : Src b c := by unfold Src; rw [hk]; trivial
    simp only [stepWith]
    rw [evalSeq_off order c (fun n hn hd => hwf.dests n hn (hd ▸ hsrc))]
    simp only [isReg, isInput, hk]
    exact hinv.consts c v hk

theorem runWith_eq_spec (b : Block) (order : List Net) (nf : State → Net → List Nat → Nat) (hnf : NfOk b order nf)
    (hwf : WF b order) :
    ∀ (inps : List Env) (s : Sim) (st : State), Inv b s st → (∀ inp ∈ inps, InputsOk b inp) →
      RunsAgree b order (runWith nf b order (writeNets b) s inps) (Pyrtl.run b order st inps) := by
  intro inps
  induction inps with
  | nil => intro _ _ _ _; trivial
  | cons inp rest ih =>
    intro s st hinv hin
    obtain ⟨hinp, hin⟩ := List.forall_mem_cons.mp hin
    have hstep := stepWith_eq_spec b order nf hnf hwf s st hinv inp hinp
    exact ⟨hstep.1, ih _ _ hstep.2 hin⟩

end Pyrtl.FastRun
