import Model.Core.Spec
import Proofs.Lemmas.PyInt
/-!
# What the value functions of the specification compute

Every row of `Spec.comb` ends in one of three reductions mod `2 ^ dw`: `x % 2 ^ dw`, the complement
`2 ^ dw - 1 - x % 2 ^ dw` (`~` and `nand`), the integer remainder (`-`).  Each commutes with cutting to a narrower
width, so `comb_trunc` goes row by row, and `comb_lt` is `comb_trunc` at the same width.  The file opens with the
bounds by powers of two that the proof files share and ends with `netFun_lt`, `evalSeq_lt`: every documented value fits
its wire.
-/
namespace Pyrtl

theorem lt_two_pow_of_le {x m n : Nat} (h : x < 2 ^ m) (hmn : m ≤ n) : x < 2 ^ n :=
  Nat.lt_of_lt_of_le h (Nat.pow_le_pow_right (by decide) hmn)

theorem mul_lt_two_pow {a b m n : Nat} (ha : a < 2 ^ m) (hb : b < 2 ^ n) : a * b < 2 ^ (m + n) :=
  Nat.pow_add 2 m n ▸ Nat.mul_lt_mul'' ha hb

theorem add_lt_two_pow_max {a b wa wb : Nat} (ha : a < 2 ^ wa) (hb : b < 2 ^ wb) : a + b < 2 ^ (max wa wb + 1) := by
  rw [Nat.pow_succ, Nat.mul_two]
  exact Nat.add_lt_add (lt_two_pow_of_le ha (Nat.le_max_left wa wb)) (lt_two_pow_of_le hb (Nat.le_max_right wa wb))

theorem div_two_pow_lt {x a b : Nat} (h : x < 2 ^ (a + b)) : x / 2 ^ a < 2 ^ b :=
  Nat.div_lt_of_lt_mul (Nat.pow_add 2 a b ▸ h)

theorem sum_lt_two_pow {l : List Nat} {B k : Nat} (h : ∀ t ∈ l, t < 2 ^ B) (hk : l.length ≤ 2 ^ k) :
    l.sum < 2 ^ (k + B) := by
  have hle : l.sum + l.length ≤ l.length * 2 ^ B := by
    clear hk
    induction l with
    | nil => simp
    | cons x xs ih =>
      obtain ⟨hx, h⟩ := List.forall_mem_cons.mp h
      have := ih h
      rw [List.sum_cons, List.length_cons, Nat.succ_mul]
      omega
  have := Nat.mul_le_mul_right (2 ^ B) hk
  rw [Nat.pow_add]
  cases l with
  | nil => exact Nat.mul_pos (Nat.two_pow_pos k) (Nat.two_pow_pos B)
  | cons x xs =>
    rw [List.length_cons] at hle this
    omega

theorem add_mul_lt {R D x C : Nat} (hR : R < D) (hx : x < C) : R + D * x < D * C := by
  have := Nat.mul_le_mul_left D (Nat.succ_le_of_lt hx)
  rw [Nat.mul_succ] at this
  omega

theorem mod_mod_le {x w dw : Nat} (h : dw ≤ w) : x % 2 ^ w % 2 ^ dw = x % 2 ^ dw :=
  Nat.mod_mod_of_dvd x (Nat.pow_dvd_pow 2 h)

theorem compl_testBit (w x i : Nat) :
    (2 ^ w - 1 - x % 2 ^ w).testBit i = (decide (i < w) && !x.testBit i) := by
  have hx : x % 2 ^ w < 2 ^ w := Nat.mod_lt _ (Nat.two_pow_pos _)
  rw [Nat.sub_sub, Nat.add_comm 1, Nat.testBit_two_pow_sub_succ hx, Nat.testBit_mod_two_pow]
  cases decide (i < w) <;> simp

theorem compl_field (W s k x : Nat) (h : s + k ≤ W) :
    (2 ^ W - 1 - x % 2 ^ W) / 2 ^ s % 2 ^ k = 2 ^ k - 1 - x / 2 ^ s % 2 ^ k := by
  apply Nat.eq_of_testBit_eq
  intro i
  simp only [compl_testBit, Nat.testBit_mod_two_pow, Nat.testBit_div_two_pow]
  by_cases hi : i < k
  · simp [hi, show i + s < W by omega]
  · simp [hi]

theorem compl_trunc {w dw x : Nat} (h : dw ≤ w) :
    (2 ^ w - 1 - x % 2 ^ w) % 2 ^ dw = 2 ^ dw - 1 - x % 2 ^ dw := by
  have := compl_field w 0 dw x (by omega)
  rwa [Nat.pow_zero, Nat.div_one, Nat.div_one] at this

namespace Spec

theorem bit_lt_two (a i : Nat) : bit a i < 2 := Nat.mod_lt _ (by decide)

theorem selectVal_lt (idx : List Nat) (a : Nat) : selectVal idx a < 2 ^ idx.length := by
  induction idx with
  | nil => simp [selectVal]
  | cons i rest ih =>
    simp only [selectVal, List.length_cons, Nat.pow_succ]
    have := bit_lt_two a i
    omega

theorem selectVal_take_lt (l : List Nat) (k a : Nat) : selectVal (l.take k) a < 2 ^ k :=
  lt_two_pow_of_le (selectVal_lt _ a) (List.length_take_le k l)

theorem selectVal_split (l : List Nat) (k a : Nat) :
    selectVal l a = selectVal (l.take k) a + 2 ^ k * selectVal (l.drop k) a := by
  induction l generalizing k with
  | nil => simp [selectVal]
  | cons i rest ih =>
    cases k with
    | zero => simp [selectVal]
    | succ k =>
      rw [List.take_succ_cons, List.drop_succ_cons, selectVal, selectVal, ih k, Nat.pow_succ, Nat.mul_right_comm]
      omega

theorem selectVal_append (l1 l2 : List Nat) (a : Nat) :
    selectVal (l1 ++ l2) a = selectVal l1 a + 2 ^ l1.length * selectVal l2 a := by
  rw [selectVal_split (l1 ++ l2) l1.length, List.take_left, List.drop_left]

theorem selectVal_mod (l : List Nat) (k A : Nat) : selectVal l A % 2 ^ k = selectVal (l.take k) A := by
  rw [selectVal_split l k, Nat.add_mul_mod_self_left, Nat.mod_eq_of_lt (selectVal_take_lt l k A)]

theorem selectVal_div (l : List Nat) (k A : Nat) : selectVal l A / 2 ^ k = selectVal (l.drop k) A := by
  rw [selectVal_split l k, Nat.add_mul_div_left _ _ (Nat.two_pow_pos k), Nat.div_eq_of_lt (selectVal_take_lt l k A),
    Nat.zero_add]

theorem selectVal_range' (s L a : Nat) : selectVal (List.range' s L) a = a / 2 ^ s % 2 ^ L := by
  induction L with
  | zero => simp [selectVal, Nat.mod_one]
  | succ L ih =>
    rw [List.range'_1_concat, selectVal_append, ih, List.length_range', Nat.mod_pow_succ, Nat.div_div_eq_div_mul,
      ← Nat.pow_add]
    simp [selectVal, bit]

theorem selectVal_range (n a : Nat) : selectVal (List.range n) a = a % 2 ^ n := by
  rw [List.range_eq_range', selectVal_range', Nat.pow_zero, Nat.div_one]

theorem selectVal_replicate (k a : Nat) : selectVal (List.replicate k 0) a = a % 2 * (2 ^ k - 1) := by
  induction k with
  | zero => simp [selectVal]
  | succ k ih =>
    simp only [List.replicate_succ, selectVal, ih, bit, Nat.pow_zero, Nat.div_one, Nat.pow_succ]
    have := Nat.one_le_two_pow (n := k)
    rcases Nat.mod_two_eq_zero_or_one a with e | e <;> rw [e] <;> omega

theorem concatVal_acc (l : List (Nat × Nat)) (acc : Nat) :
    concatVal l acc = acc * 2 ^ (l.map (·.1)).sum + concatVal l 0 := by
  induction l generalizing acc with
  | nil => simp [concatVal]
  | cons p rest ih =>
    rw [concatVal, concatVal, ih, ih (0 * _ + _)]
    simp only [List.map_cons, List.sum_cons, Nat.pow_add, Nat.zero_mul, Nat.zero_add]
    rw [Nat.add_mul, Nat.mul_assoc, Nat.add_assoc]

theorem concatVal_lt (l : List (Nat × Nat)) (h : ∀ p ∈ l, p.2 < 2 ^ p.1) : concatVal l 0 < 2 ^ (l.map (·.1)).sum := by
  induction l with
  | nil => simp [concatVal]
  | cons p rest ih =>
    obtain ⟨hp, h⟩ := List.forall_mem_cons.mp h
    rw [concatVal, concatVal_acc, Nat.zero_mul, Nat.zero_add, List.map_cons, List.sum_cons, Nat.pow_add, Nat.add_comm,
      Nat.mul_comm, Nat.mul_comm (2 ^ p.1)]
    exact add_mul_lt (ih h) hp

theorem comb_concat {l : List (Nat × Nat)} (h : ∀ p ∈ l, p.2 < 2 ^ p.1) {W : Nat} (hW : (l.map (·.1)).sum = W) :
    comb .concat l W = concatVal l 0 :=
  hW ▸ Nat.mod_eq_of_lt (concatVal_lt l h)

theorem comb_trunc (op : Op) (args : List (Nat × Nat)) {wx wo : Nat} (h : wo ≤ wx) :
    comb op args wx % 2 ^ wo = comb op args wo := by
  unfold comb
  split <;> simp only [mod_mod_le h, compl_trunc h, emod_toNat_mod h, Nat.zero_mod]

theorem comb_lt (op : Op) (args : List (Nat × Nat)) (dw : Nat) : comb op args dw < 2 ^ dw := by
  rw [← comb_trunc op args (Nat.le_refl dw)]
  exact Nat.mod_lt _ (Nat.two_pow_pos dw)

end Spec

theorem netFun_comb (b : Block) (st : State) (n : Net) {vals : List Nat} (hop : ∀ m, n.op ≠ .mread m) :
    netFun b st n vals = Spec.comb n.op ((n.args.map b.width).zip vals) (b.width n.dest) := by
  unfold netFun
  split
  · exact absurd ‹_› (hop _)
  · rfl

theorem netFun_w (b : Block) (st : State) {n : Net} {a : Nat} (hop : n.op = .w) (hargs : n.args = [a]) (v : Env) :
    netFun b st n (n.args.map v) = v a % 2 ^ b.width n.dest := by
  rw [netFun_comb b st n (by rw [hop]; exact fun _ => Op.noConfusion), hop, hargs]
  rfl

theorem netFun_lt (b : Block) (st : State) (n : Net) (vals : List Nat) :
    netFun b st n vals < 2 ^ b.width n.dest := by
  unfold netFun
  split
  · exact Nat.mod_lt _ (Nat.two_pow_pos _)
  · exact Spec.comb_lt _ _ _

theorem evalSeq_lt (b : Block) (st : State) (ns : List Net) {e : Env} {w : Nat} (h : e w < 2 ^ b.width w) :
    evalSeq (netFun b st) ns e w < 2 ^ b.width w := by
  induction ns generalizing e with
  | nil => exact h
  | cons n ns ih =>
    refine ih ?_
    unfold upd
    split
    · subst w
      exact netFun_lt b st n _
    · exact h

theorem spec_netFun_congr (b : Block) (s1 s2 : State) (h : s1.mems = s2.mems) (n : Net) (vals : List Nat) :
    netFun b s1 n vals = netFun b s2 n vals := by
  unfold netFun memRead
  rw [h]

end Pyrtl
