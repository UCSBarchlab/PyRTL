import Model.Core.Spec
import Model.Core.Topo
/-!
# `direct_connect_outputs` on whole netlists (passes.py)

One round: every net `p` (not `r`/`@`) whose destination `x` is read by exactly one net, and that net is a `w` net
into an Output `o`, is replaced by the same net with destination `o`; the `w` net is dropped.  The pass repeats the
round until nothing changes (a chain `x -> w -> tmp -> w -> o` needs two rounds).  No Mathlib.
-/
namespace Pyrtl.Dco
open Pyrtl

/-- the nets that read wire `x` -/
def readers (b : Block) (x : Nat) : List Net := b.nets.filter (fun n => n.args.contains x)

/-- the `w` net into an Output that is the only reader of `p`'s destination, if `p` is eligible -/
def outW? (b : Block) (p : Net) : Option Net :=
  if p.op.isComb then
    match readers b p.dest with
    | [w] => if w.op == .w && w.args == [p.dest] && decide (b.kind w.dest = .output) then some w else none
    | _ => none
  else none

/-- `n` is the `w` net of some eligible producer -/
def dropped (b : Block) (n : Net) : Bool := b.nets.any (fun p => outW? b p == some n)

/-- wire `x` disappears: it is the destination of an eligible producer -/
def removedWire (b : Block) (x : Nat) : Bool := b.nets.any (fun p => (outW? b p).isSome && p.dest == x)

def roundNet (b : Block) (n : Net) : Option Net :=
  if dropped b n then none
  else match outW? b n with
    | some w => some { n with dests := w.dests }
    | none => some n

def round (b : Block) : Block := { b with nets := b.nets.filterMap (roundNet b) }

/-- the pass: rounds until a round changes nothing (at most one round per net) -/
def dco : Nat → Block → Block
  | 0, b => b
  | fuel + 1, b =>
    let b' := round b
    if b'.nets.length == b.nets.length then b else dco fuel b'

def directConnectOutputs (b : Block) : Block := dco (b.nets.length + 1) b

/-! ### executable side conditions (evaluated by the driver on every tested block) -/

/-- what `Block.sanity_check` guarantees: Outputs are never read, one combinational driver per wire, a `w` net's
    destination is not wider than its source, one destination per combinational net, one argument per register net
    (the proofs use all but the fourth) -/
def dcoWfB (b : Block) : Bool :=
  b.nets.all (fun n => n.args.all (fun a => !decide (b.kind a = .output)))
  && b.nets.all (fun n => b.nets.all (fun m => !(n.op.isComb && m.op.isComb && n.dest == m.dest) || n == m))
  && b.nets.all (fun n => match n.op, n.args with
      | .w, [a] => decide (b.width n.dest ≤ b.width a)
      | _, _ => true)
  && b.nets.all (fun n => !n.op.isComb || n.dests.length == 1)
  && b.nets.all (fun n => !(n.op == .reg) || n.args.length == 1)

/-- the schedule used for a block: the scheduler's dependency order -/
def orderOf (b : Block) : List Net := (topoSort b).getD []

/-- `orderOf b` is a dependency order of exactly the combinational nets of `b` -/
def orderOkB (b : Block) : Bool :=
  isTopo (orderOf b)
  && (orderOf b).all (fun n => b.nets.contains n && n.op.isComb)
  && b.nets.all (fun n => !n.op.isComb || (orderOf b).contains n)

/-- every block the pass goes through is well formed and schedulable -/
def chainOkB : Nat → Block → Bool
  | 0, b => dcoWfB b && orderOkB b
  | fuel + 1, b =>
    dcoWfB b && orderOkB b &&
      (if (round b).nets.length == b.nets.length then true else chainOkB fuel (round b))

end Pyrtl.Dco
